import AnemoModel.Basic
import AnemoModel.Props.C01
import AnemoModel.Props.C02
import AnemoModel.Props.C03
import AnemoModel.Props.C04
import AnemoModel.Props.C05
import AnemoModel.Props.C06
import AnemoModel.Props.C07
import AnemoModel.Props.C08
import AnemoModel.Props.C09
import AnemoModel.Props.C10
import AnemoModel.Props.C11
import AnemoModel.Props.C12
import AnemoModel.Props.C13
import AnemoModel.Props.C14
import AnemoModel.Props.C15
import AnemoModel.Props.C16
import AnemoModel.Props.C17
import AnemoModel.Props.C18
import AnemoModel.Props.C19
import AnemoModel.Props.C20
import AnemoModel.Audit.C01
import AnemoModel.Audit.C02
import AnemoModel.Audit.C03
import AnemoModel.Audit.C04
import AnemoModel.Audit.C05
import AnemoModel.Audit.C06
import AnemoModel.Audit.C07
import AnemoModel.Audit.C08
import AnemoModel.Audit.C09
import AnemoModel.Audit.C10
import AnemoModel.Audit.C11
import AnemoModel.Audit.C12
import AnemoModel.Audit.C13
import AnemoModel.Audit.C14
import AnemoModel.Audit.C15
import AnemoModel.Audit.C16
import AnemoModel.Audit.C17
import AnemoModel.Audit.C18
import AnemoModel.Audit.C19
import AnemoModel.Audit.C20
