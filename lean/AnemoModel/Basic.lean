/-
Basic byte-level definitions shared by all models: byte strings and fixed-width big/little-endian
integers with explicit widths, with the lemmas that reading inverts writing and consumes exactly the
width.  No imports beyond core: the driver must link natively.
-/
namespace Anemo

abbrev Bytes := List UInt8

/-- `k`-byte big-endian encoding of `n` (callers guard `n < 256^k`). -/
def beN : Nat → Nat → Bytes
  | 0, _ => []
  | k+1, n => UInt8.ofNat (n / 256^k % 256) :: beN k (n % 256^k)

/-- read a `k`-byte big-endian integer, returning the remainder -/
def rdBeN : Nat → Bytes → Option (Nat × Bytes)
  | 0, bs => some (0, bs)
  | _+1, [] => none
  | k+1, b :: bs => match rdBeN k bs with
    | some (v, r) => some (b.toNat * 256^k + v, r)
    | none => none

/-- `k`-byte little-endian encoding of `n` (callers guard `n < 256^k`). -/
def leN : Nat → Nat → Bytes
  | 0, _ => []
  | k+1, n => UInt8.ofNat (n % 256) :: leN k (n / 256)

def rdLeN : Nat → Bytes → Option (Nat × Bytes)
  | 0, bs => some (0, bs)
  | _+1, [] => none
  | k+1, b :: bs => match rdLeN k bs with
    | some (v, r) => some (b.toNat + 256 * v, r)
    | none => none

abbrev be16 := beN 2
abbrev be32 := beN 4
abbrev le16 := leN 2
abbrev le64 := leN 8
abbrev rdBe16 := rdBeN 2
abbrev rdBe32 := rdBeN 4
abbrev rdLe16 := rdLeN 2
abbrev rdLe64 := rdLeN 8

@[simp] theorem beN_length (k n : Nat) : (beN k n).length = k := by
  induction k generalizing n with
  | zero => rfl
  | succ k ih => simp [beN, ih]

@[simp] theorem leN_length (k n : Nat) : (leN k n).length = k := by
  induction k generalizing n with
  | zero => rfl
  | succ k ih => simp [leN, ih]

theorem rdBeN_beN (k n : Nat) (h : n < 256^k) (rest : Bytes) :
    rdBeN k (beN k n ++ rest) = some (n, rest) := by
  induction k generalizing n with
  | zero => cases Nat.lt_one_iff.mp h; rfl
  | succ k ih =>
    rw [Nat.pow_succ] at h
    have hpos : 0 < 256^k := Nat.pow_pos (by decide)
    simp only [beN, rdBeN, List.cons_append, ih _ (Nat.mod_lt _ hpos)]
    rw [UInt8.toNat_ofNat', Nat.mod_mod, Nat.mod_eq_of_lt (Nat.div_lt_of_lt_mul h), Nat.mul_comm, Nat.div_add_mod]

theorem rdLeN_leN (k n : Nat) (h : n < 256^k) (rest : Bytes) :
    rdLeN k (leN k n ++ rest) = some (n, rest) := by
  induction k generalizing n with
  | zero => cases Nat.lt_one_iff.mp h; rfl
  | succ k ih =>
    rw [Nat.pow_succ, Nat.mul_comm] at h
    simp only [leN, rdLeN, List.cons_append, ih _ (Nat.div_lt_of_lt_mul h)]
    rw [UInt8.toNat_ofNat', Nat.mod_mod, Nat.mod_add_div]

/-- reading succeeds exactly when `k` bytes are available, and consumes exactly `k` -/
theorem rdBeN_some (k : Nat) (bs : Bytes) (v : Nat) (r : Bytes) (h : rdBeN k bs = some (v, r)) :
    bs.length = k + r.length ∧ v < 256^k ∧ r = bs.drop k := by
  fun_induction rdBeN k bs generalizing v r with
  | case1 bs => cases h; simp
  | case2 k => cases h
  | case3 k b bs v' r' hr ih =>
    cases h
    obtain ⟨h1, h2, h3⟩ := ih v' r' hr
    have : b.toNat * 256^k ≤ 255 * 256^k := Nat.mul_le_mul_right _ (Nat.le_of_lt_succ b.toNat_lt)
    exact ⟨by rw [List.length_cons, h1]; omega, by rw [Nat.pow_succ]; omega, h3⟩
  | case4 => cases h

theorem rdLeN_some (k : Nat) (bs : Bytes) (v : Nat) (r : Bytes) (h : rdLeN k bs = some (v, r)) :
    bs.length = k + r.length ∧ v < 256^k ∧ r = bs.drop k := by
  fun_induction rdLeN k bs generalizing v r with
  | case1 bs => cases h; simp
  | case2 k => cases h
  | case3 k b bs v' r' hr ih =>
    cases h
    obtain ⟨h1, h2, h3⟩ := ih v' r' hr
    have := b.toNat_lt
    exact ⟨by rw [List.length_cons, h1]; omega, by rw [Nat.pow_succ]; omega, h3⟩
  | case4 => cases h

theorem rdBeN_short (k : Nat) (bs : Bytes) (h : bs.length < k) : rdBeN k bs = none := by
  cases hr : rdBeN k bs with
  | none => rfl
  | some p =>
    have := (rdBeN_some k bs p.1 p.2 hr).1
    omega

theorem rdLeN_short (k : Nat) (bs : Bytes) (h : bs.length < k) : rdLeN k bs = none := by
  cases hr : rdLeN k bs with
  | none => rfl
  | some p =>
    have := (rdLeN_some k bs p.1 p.2 hr).1
    omega

end Anemo
