/-
`ActivePeersInner::add` as the SOURCE spells it: the translator (tools/gen.py, item `registry`) reads
the statements of each arm of the function and emits them as effect lists (`Gen.addWinEffs`, ...);
`Active.addGen` runs them.  `Props/C04.lean` proves `addGen = add`, so every theorem about the
hand-written `Active.add` is a theorem about what the source does, and a change to an arm (a
dropped `close()`, a missing event, another order) breaks that proof.
-/
import AnemoModel.Peers
namespace Anemo

/-- run a list of effects; a `ret*` ends the run with that result -/
def runAddEffs (c : Conn) (old : Option Conn) : Active → List AddEff → Active × Option Bool
  | s, [] => (s, none)
  | s, .insertNew :: t => runAddEffs c old { s with conns := eraseConn s.conns c.peer ++ [(c.peer, c)] } t
  | s, .closeOld :: t => runAddEffs c old { s with closed := s.closed ++ (old.map (·.id)).toList } t
  | s, .closeNew :: t => runAddEffs c old { s with closed := s.closed ++ [c.id] } t
  | s, .emitLostRequested :: t => runAddEffs c old { s with log := s.log ++ [.lostPeer c.peer .requested] } t
  | s, .emitNew :: t => runAddEffs c old { s with log := s.log ++ [.newPeer c.peer] } t
  | s, .retNone :: _ => (s, some false)
  | s, .retSome :: _ => (s, some true)

/-- `add` as the source spells it: the arm chosen by the entry and the tie-break, then the common tail -/
def Active.addGen (own : PeerId) (c : Conn) (s : Active) : Active × Option Bool :=
  let s0 := { s with added := s.added ++ [c.id] }
  match lookupConn s.conns c.peer with
  | none => runAddEffs c none s0 (Gen.addVacantEffs ++ Gen.addTailEffs)
  | some old =>
    if Gen.tieBreakGen own c.peer old.origin c.origin then runAddEffs c (some old) s0 (Gen.addWinEffs ++ Gen.addTailEffs)
    else runAddEffs c (some old) s0 (Gen.addLoseEffs ++ Gen.addTailEffs)

end Anemo
