import AnemoModel.Props.C04
open Anemo
#print axioms C04_tiebreak_is_source
#print axioms C04_inv_run
#print axioms C04_unique
#print axioms C04_no_closed_listed
#print axioms C04_no_leak
#print axioms C04_keyed
#print axioms C04_atomic
#print axioms C04_changelog
#print axioms C04_snapshot_plus_events
#print axioms C04_alternation
#print axioms C04_stale_exit_ignored
#print axioms C04_exit_of_unlisted_ignored
#print axioms C04_replace
#print axioms C04_reject_new
#print axioms C04_add_is_translated
#print axioms C04_registry_shape_checked
#print axioms C04_identity_is_pinned
