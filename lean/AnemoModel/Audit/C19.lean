import AnemoModel.Props.C19
open Anemo
#print axioms C19_refused_state_unchanged
#print axioms C19_window_bound_partial
#print axioms C19_window_bound_fresh
#print axioms C19_idle_burst_witness
#print axioms C19_window_bound_partial_tight
#print axioms C19_block_waits_until_permitted
#print axioms C19_refused_before_earliest
#print axioms C19_per_peer
#print axioms C19_refused_not_delivered
#print axioms C19_hint_positive
#print axioms C19_hint_zero_if_clock_read_after
#print axioms C19_accept_sound_some
#print axioms C19_accept_sound_fresh
#print axioms C19_layer_is_translated
#print axioms C19_identity_is_pinned
