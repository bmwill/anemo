import AnemoModel.Props.C12
open Anemo
#print axioms C12_handler_dropped
#print axioms C12_abandon_while_sending
#print axioms C12_abandon_while_awaiting
#print axioms C12_stop_before_complete
#print axioms C12_siblings_unaffected
#print axioms C12_credit_conserved
#print axioms C12_capacity_restored
#print axioms C12_ends_exactly_once
#print axioms C12_over_is_final
#print axioms C12_rpc_path_is_translated
#print axioms C12_never_refused
#print axioms C12_refused_at_capacity
