import AnemoModel.Props.C10
open Anemo
#print axioms C10_admit_is_source
#print axioms C10_never
#print axioms C10_high_allowed_bypass
#print axioms C10_other_iff_below_limit
#print axioms C10_arrival_decision
#print axioms C10_reject_no_effect
#print axioms C10_outbound_unlimited
#print axioms C10_connected_nodup
#print axioms C10_disconnect_frees_one
#print axioms C10_known_last_wins
#print axioms C10_admission_path_is_pinned
#print axioms C10_excess_only_exempt
#print axioms C10_limit_invariant
