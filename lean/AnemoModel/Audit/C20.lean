import AnemoModel.Props.C20
open Anemo
#print axioms C20_refusal_exact
#print axioms C20_accept_exact
#print axioms C20_iff
#print axioms C20_allowlist
#print axioms C20_allowlist_gates
#print axioms C20_allowlist_set
#print axioms C20_history
#print axioms C20_refused_invisible
#print axioms C20_allowlist_history
#print axioms C20_stacked
#print axioms C20_layer_is_translated
#print axioms C20_identity_is_pinned
