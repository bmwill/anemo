import AnemoModel.Props.C16
open Anemo
#print axioms C16_overlap_exact
#print axioms C16_unique_match
#print axioms C16_dispatch_exact
#print axioms C16_unmatched_not_found
#print axioms C16_dispatch_sound
#print axioms C16_odd_routes_not_found
#print axioms C16_route
#print axioms C16_merge_preserves
#print axioms C16_merge_dispatch
#print axioms C16_layer_scope
#print axioms C16_layer_keeps_validity
#print axioms C16_layer_dispatch
#print axioms C16_rpc_prefix
#print axioms C16_route_as_sent
#print axioms C16_empty_route_over_the_wire
#print axioms C16_no_call_without_poll_ready
#print axioms C16_router_is_translated
