import AnemoModel.Props.C03
open Anemo
#print axioms C03_pin_sound
#print axioms C03_reaches_key_holder
#print axioms C03_returns_party_reached
#print axioms C03_mismatch_refused
#print axioms C03_no_side_effects_on_mismatch
#print axioms C03_listener_registers_after_dialer
#print axioms C03_result_in_set
#print axioms C03_verifiers_are_translated
#print axioms C03_dial_path_is_pinned
#print axioms C03_pin_iff
#print axioms C03_pinned_result
