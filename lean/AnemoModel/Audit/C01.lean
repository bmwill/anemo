import AnemoModel.Props.C01
open Anemo
#print axioms C01_attribution_server
#print axioms C01_attribution_client
#print axioms C01_no_impersonation_server
#print axioms C01_no_impersonation_client
#print axioms C01_replay_fails
#print axioms C01_resigned_fails
#print axioms C01_bad_cert_rejected
#print axioms C01_client_auth_mandatory
#print axioms C01_id_not_from_message
#print axioms C01_rpc_path_is_translated
#print axioms C01_verifiers_are_translated
#print axioms C01_history_no_impersonation
#print axioms C01_history_never_X
