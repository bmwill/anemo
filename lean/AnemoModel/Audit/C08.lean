import AnemoModel.Props.C08
open Anemo
open Anemo.Life
#print axioms C08_no_panic_no_spin
#print axioms C08_teardown_safe
#print axioms C08_refused_incoming_harmless
#print axioms C08_shutdown_completes
#print axioms C08_api_shutdown
#print axioms C08_api_after_shutdown
#print axioms C08_api_closed_forever
#print axioms C08_api_history
#print axioms C08_api_one_shutdown_succeeds
#print axioms C08_api_is_pinned
