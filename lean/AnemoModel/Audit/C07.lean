import AnemoModel.Props.C07
open Anemo
#print axioms C07_status_table_fwd
#print axioms C07_status_table_bwd
#print axioms C07_version_table_fwd
#print axioms C07_version_table_bwd
#print axioms C07_status_fits_u16
#print axioms C07_layout_preamble
#print axioms C07_preamble_roundtrip
#print axioms C07_preamble_exact
#print axioms C07_bad_preamble
#print axioms C07_bad_version
#print axioms C07_layout_request
#print axioms C07_layout_response
#print axioms C07_layout_req_header
#print axioms C07_layout_resp_header
#print axioms C07_golden_request
#print axioms C07_roundtrip_request
#print axioms C07_roundtrip_response
#print axioms C07_roundtrip_request_exact
#print axioms C07_roundtrip_response_exact
#print axioms C07_headers_last_wins
#print axioms C07_extensions_dont_travel_req
#print axioms C07_extensions_dont_travel_resp
#print axioms C07_decoded_extensions_empty_req
#print axioms C07_decoded_extensions_empty_resp
#print axioms C07_prefix_rejected_request
#print axioms C07_prefix_rejected_response
#print axioms C07_bad_status
#print axioms C07_decoded_status_known
#print axioms C07_framing_is_translated
