import AnemoModel.Props.C06
open Anemo
#print axioms C06_confined
#print axioms C06_honest_unaffected
#print axioms C06_malformed_local
#print axioms C06_truncated_local
#print axioms C06_oversize_local
#print axioms C06_uni_dgram_ignored
#print axioms C06_total
#print axioms C06_honest_actions_unaffected
#print axioms C06_registry_isolation
#print axioms C06_events_isolation
#print axioms C06_rpc_path_is_translated
