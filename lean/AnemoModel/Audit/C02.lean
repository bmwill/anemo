import AnemoModel.Props.C02
open Anemo
#print axioms C02_at_most_once
#print axioms C02_integrity
#print axioms C02_request_as_sent
#print axioms C02_chunking_waits
#print axioms C02_complete_invokes
#print axioms C02_isolation_step
#print axioms C02_isolation
#print axioms C02_chunked_delivery
#print axioms C02_actions_project
#print axioms C02_no_swap
#print axioms C02_concurrent_pairing
#print axioms C02_rpc_path_is_translated
