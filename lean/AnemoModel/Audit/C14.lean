import AnemoModel.Props.C14
open Anemo
#print axioms C14_admitted_dialer_is_in_network
#print axioms C14_reached_listener_is_in_network
#print axioms C14_cert_name_checked
#print axioms C14_sni_checked
#print axioms C14_dialer_checks_name
#print axioms C14_connect_iff
#print axioms C14_connect_ids
#print axioms C14_disjoint_never
#print axioms C14_single_name_symmetric
#print axioms C14_single_name_partition
#print axioms C14_alternate_is_inbound_only
#print axioms C14_verifiers_are_translated
#print axioms C14_names_are_pinned
