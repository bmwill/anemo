import AnemoModel.Props.C15
open Anemo
#print axioms C15_send_exact
#print axioms C15_write_eq
#print axioms C15_encodeRequest_eq
#print axioms C15_encodeResponse_eq
#print axioms C15_recv_exact_request
#print axioms C15_recv_exact_response
#print axioms C15_intact_up_to_max
#print axioms C15_rpc_outcome
#print axioms C15_rpc_ok_iff
#print axioms C15_size_outcome_agrees
#print axioms C15_size_write_agrees
#print axioms C15_size_read_agrees
#print axioms C15_default_limit_witness
#print axioms C15_no_limit_when_unset_partial
#print axioms C15_effMax_le
#print axioms C15_effMax_some
#print axioms C15_framing_is_translated
