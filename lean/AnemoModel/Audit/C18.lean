import AnemoModel.Props.C18
open Anemo
#print axioms C18_bound
#print axioms C18_block_progress
#print axioms C18_fifo
#print axioms C18_return_error_exact
#print axioms C18_missing_peer
#print axioms C18_peer_isolation
#print axioms C18_end_frees
#print axioms C18_no_leak
#print axioms C18_conservation
#print axioms C18_connection_loss_frees
#print axioms C18_layer_is_translated
#print axioms C18_identity_is_pinned
