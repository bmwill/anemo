import AnemoModel.Props.C05
open Anemo
#print axioms C05_tiebreak_order_only
#print axioms C05_tiebreak_out_in
#print axioms C05_tiebreak_in_out
#print axioms C05_tiebreak_symmetric
#print axioms C05_survivor_dialled_by_greater
#print axioms C05_converges
#print axioms C05_reach_complete
#print axioms C05_no_further_events
#print axioms C05_order_independent
#print axioms C05_third_parties_irrelevant
#print axioms C05_dial_path_is_pinned
