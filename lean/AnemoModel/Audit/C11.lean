import AnemoModel.Props.C11
open Anemo
#print axioms C11_min
#print axioms C11_unparsable_is_absent
#print axioms C11_remote_cannot_extend
#print axioms C11_disable_impossible
#print axioms C11_remote_can_shorten
#print axioms C11_header_bound
#print axioms C11_parse_lt
#print axioms C11_parse_examples
#print axioms C11_roundtrip_header
#print axioms C11_race
#print axioms C11_end_to_end
#print axioms C11_defaults_take_effect
#print axioms C11_layers_are_translated
#print axioms C11_zero_header_is_zero
