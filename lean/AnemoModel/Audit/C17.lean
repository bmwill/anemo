import AnemoModel.Props.C17
open Anemo
#print axioms C17_paths_agree
#print axioms C17_path_shape
#print axioms C17_registered_prefix
#print axioms C17_under_prefix
#print axioms C17_own_arm_only
#print axioms C17_status_roundtrip
#print axioms C17_client_ok_iff
#print axioms C17_client_error_status
#print axioms C17_client_undecodable
#print axioms C17_server_undecodable
#print axioms C17_server_invokes_once
#print axioms C17_typed_call
#print axioms C17_route_set_unconditionally
#print axioms C17_rpc_plumbing_is_translated
