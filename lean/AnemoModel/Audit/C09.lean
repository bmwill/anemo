import AnemoModel.Props.C09
open Anemo
open Anemo.Views
#print axioms C09_dead_propagates
#print axioms C09_dead_propagates_passive
#print axioms C09_close_immediate
#print axioms C09_mutual
#print axioms C09_listed_reachable
#print axioms C09_keepalive_stays
#print axioms C09_views_symmetric
#print axioms C09_disconnect_local
#print axioms C09_disconnect_absent
#print axioms C09_absent_until_add
#print axioms C09_entry_iff_handler
#print axioms C09_unregistered_closed
#print axioms C09_transport_is_pinned
