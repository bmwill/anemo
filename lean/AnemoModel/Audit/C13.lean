import AnemoModel.Props.C13
open Anemo
#print axioms C13_only_eligible
#print axioms C13_never_dials
#print axioms C13_cap
#print axioms C13_dialed_when_eligible
#print axioms C13_marks_pending
#print axioms C13_backoff_value
#print axioms C13_spacing
#print axioms C13_rotation
#print axioms C13_failure_noticed
#print axioms C13_reset_on_success
#print axioms C13_redial_window
#print axioms C13_one_dial_per_peer
#print axioms C13_no_redial_while_pending
#print axioms C13_pending_bounded
#print axioms C13_tick_is_translated
#print axioms C13_dial_path_is_pinned
