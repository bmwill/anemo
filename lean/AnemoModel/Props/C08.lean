/-
C08 - Shutdown always completes, releases everything and never panics.
Theorems over `Life.Api` (what every public call answers) and `Life.Mgr` (the connection manager
task with an explicit runtime-teardown action), for the decision points translated from the source
(`Life.genFlags`).
-/
import AnemoModel.Lemmas.Life
namespace Anemo.Life

/-- what is true of every state the task can be in -/
structure Good (m : Mgr) : Prop where
  noPanic : m.noTaskPanic
  entries : m.handlerCancelled = true ∨ m.entries ≤ m.hLive + m.hJoin.count .cancelled
  lateLive : m.phase.rank ≤ 4 → m.hLive = 0
  lateJoin : m.phase.rank ≤ 4 → m.hJoin = []

namespace Good
variable {m : Mgr}

/-- until the handlers have been joined the last two clauses say nothing -/
theorem of_early (hr : 5 ≤ m.phase.rank) (hn : m.noTaskPanic)
    (he : m.handlerCancelled = true ∨ m.entries ≤ m.hLive + m.hJoin.count .cancelled) : Good m :=
  ⟨hn, he, fun h => by omega, fun h => by omega⟩

theorem spawnPending (h : Good m) : Good (spawnPending m) := by
  unfold Life.spawnPending
  split
  · exact { h with noPanic := ⟨by simp [h.noPanic.1], h.noPanic.2⟩ }
  · exact { h with }

/-- the handler and its entry come together -/
theorem spawnHandler (h : Good m) (hr : 5 ≤ m.phase.rank) : Good (spawnHandler m) := by
  unfold Life.spawnHandler
  split
  · refine of_early hr ⟨h.noPanic.1, by simp [h.noPanic.2]⟩ (h.entries.imp_right fun he => ?_)
    simp only [List.count_append, List.count_singleton_self]
    omega
  · refine of_early hr h.noPanic (h.entries.imp_right fun he => ?_)
    dsimp only
    omega

/-- a handler cancelled by the teardown keeps its entry and is counted as cancelled from then on -/
theorem tearDown (h : Good m) : Good m.tearDown where
  noPanic := ⟨by simp [Mgr.tearDown, h.noPanic.1], by simp [Mgr.tearDown, h.noPanic.2]⟩
  entries := h.entries.imp_right fun he => by
    simp only [Mgr.tearDown, List.count_append, List.count_replicate_self]
    omega
  lateLive _ := rfl
  lateJoin hr := by simp [Mgr.tearDown, h.lateJoin hr, h.lateLive hr]

end Good

def Safe (m : Mgr) : Out → Prop
  | .next m' => Good m' ∧ m'.work < m.work ∧ m'.tornDown = m.tornDown
  | .panic _ => False
  | _ => True

/-- a step that only moves on to a later phase, and not past the joining of the handlers, is safe -/
theorem safe_of_later_phase {m : Mgr} (h : Good m) {p : Phase} {closed : Bool}
    (hr : p.rank < m.phase.rank ∧ (p.rank ≤ 4 → m.phase.rank ≤ 4)) :
    Safe m (.next { m with phase := p, endpointClosed := closed }) :=
  ⟨{ h with lateLive := fun hp => h.lateLive (hr.2 hp), lateJoin := fun hp => h.lateJoin (hr.2 hp) },
    work_lt_of_rank_lt hr.1 (Nat.le_refl _), rfl⟩

theorem stepLoop_safe (m : Mgr) (a : Arm) (h : Good m) (hph : m.phase = .loop) :
    Safe m (m.stepLoop safeFlags a) := by
  have early : 5 ≤ m.phase.rank := by simp [hph, Phase.rank]
  -- `{ h with }` is `Good` of a state that differs from `m` in fields no clause of `Good` mentions
  cases a with
  | tick =>
    simp only [Mgr.stepLoop]
    split
    · next ht => exact ⟨{ h with }, by simp [Mgr.work, ht], rfl⟩
    · trivial
  | mailbox =>
    simp only [Mgr.stepLoop]
    split
    · next rest hm =>
      exact ⟨.spawnPending { h with }, Nat.lt_of_le_of_lt (work_spawnPending_le _) (by simp +arith [Mgr.work, hm]),
        spawnPending_tornDown _⟩
    · next rest hm =>
      exact ⟨.of_early (by simp [Phase.rank]) h.noPanic h.entries,
        work_lt_of_rank_lt (by simp [hph, Phase.rank]) (Nat.le_of_lt (by simp [Mgr.work, hm])), rfl⟩
    · split
      · trivial
      · exact safe_of_later_phase h (by simp [hph, Phase.rank])
  | accept =>
    by_cases hr : m.refused > 0
    · rw [stepLoop_accept_refused rfl hr]
      exact ⟨{ h with }, by simpa [Mgr.work] using Nat.sub_one_lt_of_lt hr, rfl⟩
    · simp only [Mgr.stepLoop, safeFlags, if_neg hr, if_true]
      by_cases hi : m.incoming > 0
      · rw [if_pos hi]
        obtain ⟨k, hk⟩ := Nat.exists_eq_add_one.mpr hi
        exact ⟨.spawnPending { h with }, Nat.lt_of_le_of_lt (work_spawnPending_le _) (by simp +arith [Mgr.work, hk]),
          spawnPending_tornDown _⟩
      · rw [if_neg hi]
        split
        · exact safe_of_later_phase h (by simp [hph, Phase.rank])
        · trivial
  | pending =>
    have pop {x rest} (hm : m.pJoin = x :: rest) : Good { m with pJoin := rest } :=
      { h with noPanic := ⟨List.not_mem_of_not_mem_cons (hm ▸ h.noPanic.1), h.noPanic.2⟩ }
    simp only [Mgr.stepLoop]
    split
    · trivial
    · next rest hm =>
      exact ⟨(pop hm).spawnHandler early, Nat.lt_of_le_of_lt (work_spawnHandler_le _) (by simp +arith [Mgr.work, hm]),
        spawnHandler_tornDown _⟩
    · next rest hm => exact ⟨pop hm, by simp [Mgr.work, hm], rfl⟩
    · next rest hm => exact h.noPanic.1 (hm ▸ List.mem_cons_self)
  | handler =>
    have pop {x rest} (hm : m.hJoin = x :: rest) : ({ m with hJoin := rest } : Mgr).noTaskPanic :=
      ⟨h.noPanic.1, List.not_mem_of_not_mem_cons (hm ▸ h.noPanic.2)⟩
    simp only [Mgr.stepLoop]
    split
    · trivial
    · next rest hm =>
      -- a handler that ended by itself had removed its entry and was not counted
      have he := h.entries
      rw [hm, List.count_cons_of_ne (by decide)] at he
      exact ⟨.of_early early (pop hm) he, by simp [Mgr.work, hm], rfl⟩
    · next rest hm =>
      -- a cancelled handler leaves its entry behind, and the step records it
      exact ⟨.of_early early (pop hm) (.inl rfl), by simp [Mgr.work, hm], rfl⟩
    · next rest hm => exact h.noPanic.2 (hm ▸ List.mem_cons_self)

theorem step_safe (m : Mgr) (a : Arm) (h : Good m) : Safe m (m.step safeFlags a) := by
  cases hph : m.phase with
  | loop =>
    simp only [Mgr.step, hph]
    split
    · exact stepLoop_safe m a h hph
    · trivial
  | closeEndpoint =>
    simp only [Mgr.step, hph]
    exact safe_of_later_phase h (by simp [hph, Phase.rank])
  | abortPending =>
    simp only [Mgr.step, hph, safeFlags, Bool.true_or, if_true]
    exact ⟨.of_early (by simp [Phase.rank]) ⟨List.not_mem_nil, h.noPanic.2⟩ h.entries,
      work_lt_of_rank_lt (by simp [hph, Phase.rank]) (by simp [Mgr.work]), rfl⟩
  | joinHandlers =>
    simp only [Mgr.step, hph]
    refine ⟨⟨⟨h.noPanic.1, List.not_mem_nil⟩, ?_, fun _ => rfl, fun _ => rfl⟩,
      work_lt_of_rank_lt (by simp [hph, Phase.rank]) (by simp +arith [Mgr.work]), rfl⟩
    -- the handlers still running remove their entries; an entry is left over only by a cancelled one, which
    -- `handlerCancelled` records
    by_cases hc : JoinRes.cancelled ∈ m.hJoin
    · exact .inl (by simp [hc])
    · exact h.entries.imp (by simp +contextual) fun he => by
        rw [List.count_eq_zero.mpr hc] at he
        simp only [List.count_nil]
        omega
  | checkEmpty =>
    simp only [Mgr.step, hph]
    split
    · exact safe_of_later_phase h (by simp [hph, Phase.rank])
    · next hfail =>
      -- nothing is left to join, so an entry is left only if a handler was cancelled, and then the assertion is waived
      have he := h.entries
      rw [h.lateLive (by simp [hph, Phase.rank]), h.lateJoin (by simp [hph, Phase.rank])] at he
      refine hfail ?_
      rcases he with he | he
      · simp [safeFlags, he]
      · simp [Nat.le_zero.mp he]
  | waitIdle =>
    simp only [Mgr.step, hph]
    split
    · trivial
    · exact safe_of_later_phase h (by simp [hph, Phase.rank])
  | rebind | notify =>
    simp only [Mgr.step, hph]
    exact safe_of_later_phase h (by simp [hph, Phase.rank])
  | ended =>
    simp only [Mgr.step, hph]
    trivial

def Out.isPanic : Out → Bool
  | .panic _ => true
  | _ => false

/-- any poll, under any schedule of arm choices, never panics and takes at most `work` steps -/
theorem poll_safe (sched : List Arm) (m : Mgr) (n : Nat) (h : Good m) :
    (Mgr.poll safeFlags m sched n).1.isPanic = false ∧ (Mgr.poll safeFlags m sched n).2 ≤ n + m.work := by
  induction sched generalizing m n with
  | nil => exact ⟨rfl, Nat.le_add_right _ _⟩
  | cons a rest ih =>
    have hs := step_safe m a h
    rw [Mgr.poll]
    cases hst : m.step safeFlags a with
    | next m' =>
      obtain ⟨hg, hw, -⟩ := hst ▸ hs
      have := ih m' (n + 1) hg
      exact ⟨this.1, Nat.le_trans this.2 (by omega)⟩
    | notReady => exact ih m n h
    | yield m' | done m' => exact ⟨rfl, Nat.le_add_right _ _⟩
    | panic w => exact (hst ▸ hs).elim

/-- the flags translated from the current source are the safe ones -/
theorem genFlags_safe : genFlags = safeFlags := by decide

/-- no poll of the manager ever panics or spins: whatever `select!` picks, it returns after at most `work` steps -/
theorem C08_no_panic_no_spin (m : Mgr) (h : Good m) (sched : List Arm) :
    (Mgr.poll genFlags m sched 0).1.isPanic = false ∧ (Mgr.poll genFlags m sched 0).2 ≤ m.work := by
  rw [genFlags_safe]
  simpa using poll_safe sched m 0 h

/-- **Tearing down the async runtime at any moment neither panics nor hangs**: from every state the
manager task can be in (before, during or after shutdown; any in-flight dials, handshakes, handlers,
queued API calls) the poll that is in progress when the runtime goes away, whatever `select!` picks,
does not panic and returns after at most `work` steps. -/
theorem C08_teardown_safe (m : Mgr) (h : Good m) (sched : List Arm) :
    (Mgr.poll genFlags m.tearDown sched 0).1.isPanic = false ∧
    (Mgr.poll genFlags m.tearDown sched 0).2 ≤ m.tearDown.work :=
  C08_no_panic_no_spin m.tearDown h.tearDown sched

/-- a remote party that sends a first packet the endpoint cannot accept does not end the event loop -/
theorem C08_refused_incoming_harmless (m : Mgr) (hph : m.phase = .loop) (hr : m.refused > 0) :
    ∃ m', m.step genFlags .accept = .next m' ∧ m'.phase = .loop := by
  rw [genFlags_safe]
  have hacc := stepLoop_accept_refused (f := safeFlags) rfl hr
  have hready : m.anyReady safeFlags = true := anyReady_of_ready (a := .accept) (by simp [hacc])
  exact ⟨{ m with refused := m.refused - 1 }, by simp only [Mgr.step, hph, hready, if_true, hacc], hph⟩

/-- **Shutdown completes and releases everything**: once the loop has been left (explicit shutdown or
last handle dropped) on a live runtime the sequence runs to the end in 7 steps, whatever was in
flight: no entries, no handlers, no pending connections remain; the only timed wait is the bounded
idle wait. -/
theorem C08_shutdown_completes (m : Mgr) (h : Good m) (hph : m.phase = .closeEndpoint) (ht : m.tornDown = false)
    (hc : m.handlerCancelled = false) (hnc : JoinRes.cancelled ∉ m.hJoin) (sched : List Arm) (hs : sched.length = 8) :
    ∃ m', Mgr.poll genFlags m sched 0 = (.done m', 7) ∧ m'.phase = .ended ∧ m'.entries = 0 ∧ m'.hLive = 0 ∧
      m'.pLive = 0 ∧ m'.pJoin = [] ∧ m'.hJoin = [] ∧ m'.endpointClosed = true := by
  rw [genFlags_safe]
  -- no handler was cancelled, so every entry is removed by its handler when the handlers are joined
  have hent : m.entries - m.hLive = 0 := by
    have he := h.entries
    rw [hc, List.count_eq_zero.mpr hnc] at he
    exact Nat.sub_eq_zero_of_le (he.resolve_left Bool.false_ne_true)
  match sched, hs with
  | [a1, a2, a3, a4, a5, a6, a7, a8], _ =>
    simp [Mgr.poll, Mgr.step, hph, safeFlags, ht, hc, hent, hnc]

/-! ### what goes wrong when a decision point is different (the defects repaired by the `fix:` commits,
and the naive repair that the existing test suite rejects) -/

def idleTorn : Mgr := ({} : Mgr).tearDown
def connected : Mgr := { hLive := 1, entries := 1 }

example : Good idleTorn := ⟨⟨by decide, by decide⟩, Or.inr (by decide), by decide, by decide⟩
example : Good connected := ⟨⟨by decide, by decide⟩, Or.inr (by decide), by decide, by decide⟩

/-- `accept() -> None` ignored: the poll never ends (every step leaves the state unchanged) -/
theorem spin_witness (n : Nat) :
    Mgr.poll { safeFlags with acceptNoneLeavesLoop := false } idleTorn (List.replicate n .accept) 0 = (.next idleTorn, n) := by
  simpa using poll_replicate_of_step_self (f := { safeFlags with acceptNoneLeavesLoop := false }) (m := idleTorn)
    (a := .accept) (by decide) n 0

/-- join results unwrapped: teardown of a connected network panics -/
example : (Mgr.poll { safeFlags with joinPropagatesOnlyPanics := false } connected.tearDown [.handler] 0).1.isPanic = true := by decide

/-- assertion not waived: teardown while a connected network shuts down panics -/
example : (Mgr.poll { safeFlags with assertWaivedWhenCancelled := false }
    ({ connected with phase := .closeEndpoint } : Mgr).tearDown [.tick, .tick, .tick, .tick] 0).1.isPanic = true := by decide

/-- leaving the loop on `None` while `None` also stands for a refused incoming connection: anybody can
shut a node down with one bad packet (this is what `test_network_isolation` caught) -/
example : ({ refused := 1 } : Mgr).step { safeFlags with acceptNoneMeansClosed := false } .accept =
    .next { refused := 0, phase := .closeEndpoint } := by decide

/-- pending connections joined with their results inspected: a dial in flight at shutdown panics -/
example : (Mgr.poll { safeFlags with pendingShutdownTolerant := false }
    ({ phase := .closeEndpoint, pLive := 1 } : Mgr) [.tick, .tick] 0).1.isPanic = true := by decide

/-! ### the API after shutdown -/

/-- the first shutdown succeeds and leaves a closed network without peers -/
theorem C08_api_shutdown (s : Api) (h : s.closed = false) :
    s.call .shutdown = ({ closed := true, peers := 0 }, .ok) := by
  simp [Api.call, h]

/-- **every call issued after shutdown returns an error** (or the closed/empty answer), and the state
stays closed for every further sequence of calls -/
theorem C08_api_after_shutdown (s : Api) (h : s.closed = true) (c : Call) :
    (s.call c).1 = s ∧
    (s.call c).2 = (match c with
      | .peers => .num s.peers
      | .isClosed => .flag true
      | .upgrade => .flag false
      | _ => .err) := by
  cases c <;> simp [Api.call, h]

theorem C08_api_closed_forever (s : Api) (h : s.closed = true) (cs : List Call) : (s.run cs).1 = s :=
  congrArg Prod.fst (run_of_call_fst fun c _ => (C08_api_after_shutdown s h c).1)

/-- the answer every call gets on a closed network -/
def closedAnswer : Call → Res
  | .peers => .num 0
  | .isClosed => .flag true
  | .upgrade => .flag false
  | _ => .err

theorem run_closed (cs : List Call) :
    (({ closed := true, peers := 0 } : Api).run cs) = ({ closed := true, peers := 0 }, cs.map closedAnswer) := by
  have hc (c : Call) : ({ closed := true, peers := 0 } : Api).call c = ({ closed := true, peers := 0 }, closedAnswer c) := by
    cases c <;> rfl
  rw [run_of_call_fst (s := { closed := true, peers := 0 }) fun c _ => by rw [hc]]
  simp only [hc]

/-- **Every history of API calls, any length**: from a running network, whatever was called before
the first `shutdown`, that shutdown succeeds, the network is then closed WITHOUT peers, and every later
call - in any number and order, further shutdowns included - gets the closed answer (error, closed,
no peers, no upgrade). -/
theorem C08_api_history (s : Api) (h : s.closed = false) (pre post : List Call) (hp : Call.shutdown ∉ pre) :
    (s.run (pre ++ .shutdown :: post)).1 = { closed := true, peers := 0 } ∧
    (s.run (pre ++ .shutdown :: post)).2 = (s.run pre).2 ++ Res.ok :: post.map closedAnswer := by
  have hpre : (s.run pre).1 = s :=
    congrArg Prod.fst (run_of_call_fst fun c hc => call_fst_of_ne_shutdown s fun e => hp (e ▸ hc))
  rw [run_append, hpre, run_cons, C08_api_shutdown s h, run_closed]
  exact ⟨rfl, rfl⟩

/-- at most one `shutdown` of a history is answered `ok` (the first), however many are issued and
from whichever state -/
theorem C08_api_one_shutdown_succeeds (s : Api) (cs : List Call) :
    ((cs.zip (s.run cs).2).filter (fun p => p.1 == .shutdown && p.2 == .ok)).length ≤ 1 ∧
    (s.closed = true → ((cs.zip (s.run cs).2).filter (fun p => p.1 == .shutdown && p.2 == .ok)).length = 0) := by
  induction cs generalizing s with
  | nil => exact ⟨Nat.zero_le _, fun _ => rfl⟩
  | cons c cs ih =>
    rw [run_cons]
    simp only [List.zip_cons_cons, List.filter_cons]
    by_cases hc : c = .shutdown
    · subst hc
      rcases Bool.eq_false_or_eq_true s.closed with hs | hs
      · -- on a closed network a shutdown is answered `err` and changes nothing
        have h2 : (s.call .shutdown).2 = .err := (C08_api_after_shutdown s hs .shutdown).2
        rw [(C08_api_after_shutdown s hs .shutdown).1, h2]
        exact ih s
      · -- the first shutdown is answered `ok`; it closes the network, so no later one is
        rw [C08_api_shutdown s hs]
        have h0 := (ih { closed := true, peers := 0 }).2 rfl
        simp [h0, hs]
    · rw [call_fst_of_ne_shutdown s hc, beq_eq_false_iff_ne.mpr hc]
      exact ih s

example : (({ peers := 3 } : Api).run [.peers, .rpc, .shutdown, .rpc, .shutdown, .peers, .upgrade]).2 =
    [.num 3, .ok, .ok, .err, .err, .num 0, .flag false] := by decide
end Anemo.Life

namespace Anemo
/-- **The API functions are the ones the lifecycle model was written for** (word for word, checked on this run): `connect` and `shutdown` hand their request to the manager with `send(..).await` (waiting for room in the mailbox, failing only when it is closed) and then await the reply; `disconnect`, `peers` go through the weak reference to the active set; `is_closed` is the mailbox being closed; `upgrade` refuses a closed network; `wait_idle` is bounded by the configured timeout. -/
theorem C08_api_is_pinned : Gen.netApiShapeChecked = true ∧ Gen.endpointShapeChecked = true := ⟨rfl, rfl⟩
end Anemo
