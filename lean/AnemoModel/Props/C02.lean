/-
C02 — RPC delivery integrity, pairing and at-most-once handling.
* at most once: the serving machine of a stream emits at most one `invoke`, whatever events arrive
  (any bytes, FIN, RESET, STOP, in any order, any scheduler choice);
* integrity: a caller gets `ok r` only if the handler ran on exactly the request it sent (as delivered:
  header map normalised, extensions dropped) and `r` is exactly what the handler returned -- for every
  route / header map / body that fits the frame limits (from C15's end-to-end characterisation);
* delivery is independent of how QUIC chops the request into chunks;
* isolation: a connection is a family of independent stream machines, so no interleaving of events
  on other streams can alter what a stream sees (responses cannot be swapped or merged).
QUIC stream reliability/ordering is trusted; loss, duplication and reordering of datagrams are below
that abstraction and are exercised by the fabric runs.
-/
import AnemoModel.Lemmas.Stream
import AnemoModel.Props.C15
namespace Anemo
open Gen

/-- no request is delivered to a handler more than once -/
theorem C02_at_most_once (max : Nat) (sched : Bool) (p : SrvPhase) (es : List SrvEvent) :
    ((Srv.run max sched p es).2.filter isInvoke).length ≤ 1 := by
  have h := srv_run_invokes max sched p es
  have : p.invokesLeft ≤ 1 := by cases p <;> simp [SrvPhase.invokesLeft]
  omega

/-- a successful RPC returns exactly the handler's response for exactly the request sent -/
theorem C02_integrity (cm sm : Nat) (req : Req) (handler : Req → Resp) (r : Resp)
    (hcm : cm ≤ lenFieldMax) (hsm : sm ≤ lenFieldMax) (hwf : ReqWF req)
    (hwfr : RespWF (handler (reqDelivered req)))
    (hok : rpcRoundTrip cm sm req handler = .ok r) :
    r = respDelivered (handler (reqDelivered req)) :=
  ((rpcRoundTrip_eq_ok_iff cm sm req handler r hcm hsm hwf hwfr).mp hok).2.2.2.2

/-- what the handler sees is the request that was sent: route, body, version exactly, the header map
as a map (keys distinct => identical list), no extensions from the wire -/
theorem C02_request_as_sent (r : Req) (hnd : (r.headers.map (·.1)).Nodup) :
    reqDelivered r = { r with ext := [] } := by
  simp [reqDelivered, normHeaders_nodup _ hnd]

/-- waiting while bytes of the request are still to come, from any buffer -/
theorem srv_prefix_waits (max : Nat) (sched : Bool) (req : Req) (bytes buf more rest : Bytes)
    (hmax : max ≤ lenFieldMax) (hwf : ReqWF req) (henc : encodeRequest max req = .ok bytes)
    (hb : buf ++ more ++ rest = bytes) (hr : rest ≠ []) :
    Srv.step max sched (.reading buf false) (.data more) = (.reading (buf ++ more) false, []) := by
  subst hb
  obtain ⟨e, he, hn⟩ := decodeRequest_prefix max req _ (buf ++ more).length hmax hwf.1 hwf.2
    henc (by simpa using List.length_pos_iff.mpr hr)
  rw [List.take_left' rfl] at he
  simp only [Srv.step, he, hn, if_true]

/-- the serving machine hands the handler the request that was sent however the stream delivers it
in pieces: while only a strict prefix has arrived it keeps waiting, and when the last byte arrives it
invokes the handler with the request as delivered -/
theorem C02_chunking_waits (max : Nat) (sched : Bool) (req : Req) (bytes : Bytes) (k : Nat)
    (hmax : max ≤ lenFieldMax) (hwf : ReqWF req) (henc : encodeRequest max req = .ok bytes) (hk : k < bytes.length) :
    Srv.step max sched (.reading [] false) (.data (bytes.take k)) = (.reading (bytes.take k) false, []) :=
  srv_prefix_waits max sched req bytes [] _ (bytes.drop k) hmax hwf henc (List.take_append_drop k bytes)
    (by simpa using hk)

theorem C02_complete_invokes (max : Nat) (sched : Bool) (req : Req) (bytes buf rest : Bytes)
    (hmax : max ≤ lenFieldMax) (hwf : ReqWF req) (henc : encodeRequest max req = .ok bytes) (more : Bytes)
    (hbuf : buf ++ more = bytes ++ rest) :
    Srv.step max sched (.reading buf false) (.data more) = (.handling, [.invoke (reqDelivered req)]) := by
  have := C07_roundtrip_request max req bytes rest hmax hwf henc
  simp only [Srv.step, hbuf, this]
  rfl

/-- isolation: events on other streams never touch a stream's machine -/
theorem C02_isolation_step (max : Nat) (c : ConnState) (sid j : Nat) (e : SrvEvent) (hj : j ≠ sid) :
    (Conn.step max c sid e).1.streams j = c.streams j :=
  Conn.step_other max c sid j e hj

/-- the state of stream `j` after ANY interleaving of events on all streams is the state its own
machine reaches on its own events alone -/
theorem C02_isolation (max : Nat) (c : ConnState) (evs : List (Nat × SrvEvent)) (j : Nat) :
    (Conn.run max c evs).streams j =
      (Srv.run max true (c.streams j) ((evs.filter (fun x => x.1 = j)).map (·.2))).1 := by
  induction evs generalizing c with
  | nil => rfl
  | cons x t ih =>
    obtain ⟨sid, e⟩ := x
    simp only [Conn.run]
    rw [ih]
    by_cases h : sid = j
    · subst h
      simp [Conn.step, Srv.run]
    · have hj : j ≠ sid := fun e => h e.symm
      simp [h, C02_isolation_step max c sid j e hj]

/-- an encoded request is never empty (it starts with the 8-byte preamble) -/
theorem encodeRequest_nonempty (max : Nat) (req : Req) (bytes : Bytes) (henc : encodeRequest max req = .ok bytes) :
    0 < bytes.length := by
  obtain ⟨_, _, rfl⟩ := (C07_layout_request max req bytes).mp henc
  simp [preamble_length]; omega

/-- **Chunking-independence, in full**: however the transport cuts the request bytes into pieces
(any number of pieces, any sizes, empty ones included), the handler is invoked exactly once, with the
request as delivered, when -- and only when -- the last byte is in. -/
theorem C02_chunked_delivery (max : Nat) (sched : Bool) (req : Req) (bytes : Bytes)
    (hmax : max ≤ lenFieldMax) (hwf : ReqWF req) (henc : encodeRequest max req = .ok bytes)
    (chunks : List Bytes) (buf : Bytes) (hlt : buf.length < bytes.length) (hcat : buf ++ chunks.flatten = bytes) :
    Srv.run max sched (.reading buf false) (chunks.map .data) = (.handling, [.invoke (reqDelivered req)]) := by
  induction chunks generalizing buf with
  | nil => simp at hcat; subst hcat; omega
  | cons ch t ih =>
    rw [List.flatten_cons, ← List.append_assoc] at hcat
    rw [List.map_cons, Srv.run]
    cases ht : t.flatten with
    | nil =>
      -- the last byte is in: the handler is invoked, and whatever else arrives is ignored
      rw [C02_complete_invokes max sched req bytes buf [] hmax hwf henc ch (by simpa [ht] using hcat), srv_handling_data]
      rfl
    | cons b l =>
      rw [srv_prefix_waits max sched req bytes buf ch _ hmax hwf henc hcat (ht ▸ List.cons_ne_nil b l)]
      exact ih (buf ++ ch) (by simp [← hcat, ht]) hcat

/-- the actions on stream `j` in ANY interleaving of events on all streams are exactly the actions of
its own machine on its own events -/
theorem C02_actions_project (max : Nat) (c : ConnState) (evs : List (Nat × SrvEvent)) (j : Nat) :
    ((Conn.trace max c evs).filter (fun x => x.1 = j)).map (·.2) =
      (Srv.run max true (c.streams j) ((evs.filter (fun x => x.1 = j)).map (·.2))).2 := by
  induction evs generalizing c with
  | nil => rfl
  | cons x t ih =>
    obtain ⟨sid, e⟩ := x
    simp only [Conn.trace, List.filter_append, List.map_append]
    rw [ih]
    by_cases h : sid = j
    · subst h
      simp [Conn.step, Srv.run, List.filter_map, Function.comp_def]
    · have hj : j ≠ sid := fun e => h e.symm
      simp [h, C02_isolation_step max c sid j e hj, List.filter_map, Function.comp_def]

/-- responses are never swapped or merged: two histories that agree on stream `j` produce the same
actions (invocation, bytes written, finish, end) on stream `j` -/
theorem C02_no_swap (max : Nat) (c : ConnState) (evs evs' : List (Nat × SrvEvent)) (j : Nat)
    (h : evs.filter (fun x => x.1 = j) = evs'.filter (fun x => x.1 = j)) :
    ((Conn.trace max c evs).filter (fun x => x.1 = j)).map (·.2) =
    ((Conn.trace max c evs').filter (fun x => x.1 = j)).map (·.2) := by
  rw [C02_actions_project, C02_actions_project, h]

/-- **Concurrent RPCs are paired correctly.**  Take ANY interleaving of events on all the streams of a
connection.  If the events of stream `j` are: the bytes of request `req` in any chunking, then the
handler's answer `r`, then the caller reading it, the actions on stream `j` are exactly: invoke the
handler once with `req` as delivered, write the encoding of `r`, finish, end cleanly -- whatever the
other streams carry and in whatever order their handlers complete. -/
theorem C02_concurrent_pairing (max : Nat) (c : ConnState) (evs : List (Nat × SrvEvent)) (j : Nat)
    (req : Req) (bytes : Bytes) (chunks : List Bytes) (r : Resp) (rbytes : Bytes)
    (hmax : max ≤ lenFieldMax) (hwf : ReqWF req) (henc : encodeRequest max req = .ok bytes)
    (hresp : encodeResponse max r = .ok rbytes)
    (hfresh : c.streams j = .reading [] false)
    (hcat : chunks.flatten = bytes)
    (hj : (evs.filter (fun x => x.1 = j)).map (·.2) = chunks.map .data ++ [.handlerDone r, .readAll]) :
    ((Conn.trace max c evs).filter (fun x => x.1 = j)).map (·.2) =
      [.invoke (reqDelivered req), .write rbytes, .finish, .ended true] := by
  rw [C02_actions_project, hj, hfresh, srv_run_append,
    C02_chunked_delivery max true req bytes hmax hwf henc chunks []
      (by simpa using encodeRequest_nonempty max req bytes henc) (by simpa using hcat)]
  simp [Srv.run, Srv.step, hresp]

/-! non-vacuity -/
example : ((Srv.run (effMax none) true (.reading [] false)
    [.data [0x61,0x6e,0x65,0x6d,0x6f,0,1,0, 0,0,0,0x11], .data [1,0,0,0,0,0,0,0,0x2f, 0,0,0,0,0,0,0,0, 0,0,0,0],
     .handlerDone ⟨.Success, [], [7], .V1, []⟩, .readAll]).2.filter isInvoke).length = 1 := by decide

/-- two requests interleaved chunk by chunk on streams 4 and 8, handlers completing in the opposite order -/
example :
    let a : Bytes := [0x61,0x6e,0x65,0x6d,0x6f,0,1,0, 0,0,0,0x11]
    let b : Bytes := [1,0,0,0,0,0,0,0,0x2f, 0,0,0,0,0,0,0,0, 0,0,0,0]
    let tr := Conn.trace (effMax none) {} [(4, .data a), (8, .data a), (8, .data b), (4, .data b),
       (8, .handlerDone ⟨.Success, [], [8], .V1, []⟩), (4, .handlerDone ⟨.Success, [], [4], .V1, []⟩), (4, .readAll), (8, .readAll)]
    ((tr.filter (fun x => x.1 = 4)).map (·.2)).length = 4 ∧ ((tr.filter (fun x => x.1 = 8)).map (·.2)).length = 4 := by decide

/-- **The serving and calling sequences are the ones the stream machine models**, read off the source on
this run: `do_handle` = read the request; stamp it with the connection's PeerId, origin, remote address
and direction; run the service (`oneshot`: readiness and call inside ONE future) raced, unconditionally,
against the caller stopping the response stream; write the response; finish; wait until the peer has
read it.  `do_rpc` = open a stream; frame both halves with the configured codec; write the request;
finish; read ONE response; stamp it with the connection's PeerId; return it.  Around them (shapes
recognised, `rpcPathShapeChecked`): `Network::rpc` is one lookup and one call (no retry), `Peer::call`
stamps the request and wraps `do_rpc` in the outbound layer, the accept loop drops unidirectional
streams, spawns one task per bidirectional stream and ignores datagrams. -/
theorem C02_rpc_path_is_translated :
    Gen.serveStepsGen = [.readRequest, .stampPeerId, .stampOrigin, .stampRemoteAddr, .stampInbound,
                         .raceHandlerWithStop, .writeResponse, .finishSend, .awaitStopped, .returnOk] ∧
    Gen.callStepsGen = [.openBi, .frameSend, .frameRecv, .writeRequest, .finishSend, .readResponse,
                        .stampResponsePeerId, .returnResponse] ∧
    Gen.rpcPathShapeChecked = true := ⟨rfl, rfl, rfl⟩

end Anemo
