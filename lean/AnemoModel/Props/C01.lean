/-
C01 — Peer identity is cryptographically authenticated.
Symbolic model (`Tls.lean`): a signature verifies under key k iff made with k's private key; the TLS
1.3 state machine (transcript binding, Finished) and X.509/DER parsing are trusted.  Within that
model the theorems hold for every certificate and handshake signature an adversary can assemble from
the keys it holds plus verbatim copies of honest certificates, in both roles, pinned or not.
-/
import AnemoModel.Lemmas.Tls
import AnemoModel.Props.C07
namespace Anemo

/-- listener: whoever is accepted as `k` presented a certificate self-signed by `k`, carrying `k` as
subject key, and proved possession of `k` in the handshake; all algorithms Ed25519 -/
theorem C01_attribution_server (accepted : List Name) (sni : Name) (c? : Option Cert) (hs : HsSig) (k : Key)
    (h : serverAccepts accepted sni c? hs = some k) :
    ∃ c, c? = some c ∧ c.spki = k ∧ c.signer = k ∧ hs.signer = k ∧
      c.spkiAlg = .ed25519 ∧ c.sigAlg = .ed25519 ∧ hs.alg = .ed25519 ∧ c.validNow = true := by
  cases c? with
  | none => cases h
  | some c =>
    obtain ⟨_, hcert, _, hsig, hk⟩ := serverAccepts_some_eq_some_iff.mp h
    obtain ⟨_, hspkiAlg, hsigAlg, hself, hvalid⟩ := certOk_iff.mp hcert
    obtain ⟨halg, hsigner⟩ := hsOk_iff.mp hsig
    exact ⟨c, rfl, hk, hself.trans hk, hsigner.trans hk, hspkiAlg, hsigAlg, halg, hvalid⟩

/-- dialer: the same, and the identity returned is the key of the certificate that was validated -/
theorem C01_attribution_client (own : List Name) (pin? : Option Key) (dialed : Name) (c : Cert) (hs : HsSig) (k : Key)
    (h : clientAccepts own pin? dialed c hs = some k) :
    c.spki = k ∧ c.signer = k ∧ hs.signer = k ∧ c.spkiAlg = .ed25519 ∧ c.sigAlg = .ed25519 ∧ hs.alg = .ed25519 := by
  obtain ⟨_, _, hcert, _, hsig, hk⟩ := clientAccepts_eq_some_iff.mp h
  obtain ⟨_, hspkiAlg, hsigAlg, hself, _⟩ := certOk_iff.mp hcert
  obtain ⟨halg, hsigner⟩ := hsOk_iff.mp hsig
  exact ⟨hk, hself.trans hk, hsigner.trans hk, hspkiAlg, hsigAlg, halg⟩

/-- a party lacking the private key of X is never admitted as X by a listener, whatever certificate
it assembles (replayed, re-signed with its own key, any names, any validity) -/
theorem C01_no_impersonation_server (A : List Key) (accepted : List Name) (sni : Name) (c : Cert) (hs : HsSig) (X : Key)
    (hs_adv : advSig A hs) (h : serverAccepts accepted sni (some c) hs = some X) : X ∈ A := by
  obtain ⟨_, _, _, _, hsig, _⟩ := C01_attribution_server accepted sni (some c) hs X h
  exact hsig ▸ hs_adv

/-- ... nor by a dialer, pinned or not -/
theorem C01_no_impersonation_client (A : List Key) (own : List Name) (pin? : Option Key) (dialed : Name) (c : Cert)
    (hs : HsSig) (X : Key) (hs_adv : advSig A hs) (h : clientAccepts own pin? dialed c hs = some X) : X ∈ A := by
  obtain ⟨_, _, hsig, _⟩ := C01_attribution_client own pin? dialed c hs X h
  exact hsig ▸ hs_adv

/-- replaying X's certificate without X's key fails: the handshake signature cannot be produced -/
theorem C01_replay_fails (A : List Key) (accepted : List Name) (sni n : Name) (X : Key) (hs : HsSig)
    (hX : X ∉ A) (hs_adv : advSig A hs) : serverAccepts accepted sni (some (honestCert X n)) hs = none := by
  refine Option.eq_none_iff_forall_ne_some.mpr fun k hk => hX ?_
  have hspki : X = k := (serverAccepts_some_eq_some_iff.mp hk).2.2.2.2
  exact hspki ▸ C01_no_impersonation_server A accepted sni _ hs k hs_adv hk

/-- a certificate with subject key X signed by the adversary's own key is rejected -/
theorem C01_resigned_fails (accepted : List Name) (sni : Name) (c : Cert) (hs : HsSig) (h : c.signer ≠ c.spki) :
    serverAccepts accepted sni (some c) hs = none := by
  refine Option.eq_none_iff_forall_ne_some.mpr fun k hk => h ?_
  obtain ⟨_, hcert, _⟩ := serverAccepts_some_eq_some_iff.mp hk
  exact (certOk_iff.mp hcert).2.2.2.1

/-- non-Ed25519 keys or signatures, expired or malformed certificates are rejected -/
theorem C01_bad_cert_rejected (accepted : List Name) (sni : Name) (c : Cert) (hs : HsSig)
    (h : c.spkiAlg ≠ .ed25519 ∨ c.sigAlg ≠ .ed25519 ∨ c.validNow = false ∨ c.wellFormed = false ∨ hs.alg ≠ .ed25519) :
    serverAccepts accepted sni (some c) hs = none := by
  refine Option.eq_none_iff_forall_ne_some.mpr fun k hk => ?_
  obtain ⟨_, hcert, _, hsig, _⟩ := serverAccepts_some_eq_some_iff.mp hk
  obtain ⟨hwf, hspkiAlg, hsigAlg, _, hvalid⟩ := certOk_iff.mp hcert
  rcases h with h | h | h | h | h
  · exact h hspkiAlg
  · exact h hsigAlg
  · exact ne_true_of_eq_false h hvalid
  · exact ne_true_of_eq_false h hwf
  · exact h (hsOk_iff.mp hsig).1

/-- presenting no client certificate is never enough -/
theorem C01_client_auth_mandatory (accepted : List Name) (sni : Name) (hs : HsSig) :
    serverAccepts accepted sni none hs = none := rfl

/-- the identity a handler sees on a request is the connection's authenticated identity: it is
attached after decoding and nothing decoded from the message can carry one (extensions never travel) -/
def deliverRequest (connPeer : Key) (max : Nat) (bytes : Bytes) : Option (Req × Key) :=
  match decodeRequest max bytes with
  | .ok (r, _) => some (r, connPeer)
  | .error _ => none

theorem C01_id_not_from_message (connPeer : Key) (max : Nat) (bytes : Bytes) (r : Req) (k : Key)
    (h : deliverRequest connPeer max bytes = some (r, k)) : k = connPeer ∧ r.ext = [] := by
  unfold deliverRequest at h
  split at h
  · next rest hd =>
    cases h
    exact ⟨rfl, C07_decoded_extensions_empty_req max bytes r rest hd⟩
  · cases h

/-! non-vacuity: an honest pair is accepted with the right identities -/
example : serverAccepts [[0x74]] [0x74] (some (honestCert 5 [0x74])) ⟨5, .ed25519⟩ = some 5 ∧
    clientAccepts [[0x74]] (some 7) [0x74] (honestCert 7 [0x54]) ⟨7, .ed25519⟩ = some 7 ∧
    serverAccepts [[0x74]] [0x74] (some (honestCert 5 [0x74])) ⟨6, .ed25519⟩ = none := by decide


/-- **The identity on a request and on a response is stamped from the connection**, after decoding, on both paths (read off the source on this run): `stampPeerId` follows `readRequest` in `do_handle`, `stampResponsePeerId` follows `readResponse` in `do_rpc`, and nothing read from the wire is consulted for it. -/
theorem C01_rpc_path_is_translated :
    Gen.serveStepsGen = [.readRequest, .stampPeerId, .stampOrigin, .stampRemoteAddr, .stampInbound,
                         .raceHandlerWithStop, .writeResponse, .finishSend, .awaitStopped, .returnOk] ∧
    Gen.callStepsGen = [.openBi, .frameSend, .frameRecv, .writeRequest, .finishSend, .readResponse,
                        .stampResponsePeerId, .returnResponse] ∧
    Gen.rpcPathShapeChecked = true := ⟨rfl, rfl, rfl⟩


/-- **The symbolic verifiers are the translation of the source**: the conjunction of what the statements
of `verify_client_cert`, `verify_server_cert` and the pinned `verify_server_cert` demand (read off
crypto.rs on this run, in order) is exactly what `serverAccepts` / `clientAccepts` demand of a
certificate; the three handshake-signature checks delegate to rustls with Ed25519 as the only scheme,
client authentication is offered and mandatory, the end-entity certificate is its own trust anchor,
and the identity is the Ed25519 key of its SubjectPublicKeyInfo (shapes recognised: `tlsShapeChecked`). -/
theorem C01_verifiers_are_translated (names : List Name) (dialed : Name) (p : Key) (c : Cert) :
    verifyClientCertGen names c = (certOk c && names.any (validFor c)) ∧
    verifyServerCertGen names dialed c = (names.contains dialed && certOk c && validFor c dialed) ∧
    verifyPinnedServerCertGen names dialed p c = (pinOk (some p) c && names.contains dialed && certOk c && validFor c dialed) ∧
    Gen.tlsShapeChecked = true :=
  ⟨verifyClientCertGen_eq names c, verifyServerCertGen_eq names dialed c,
    verifyPinnedServerCertGen_eq names dialed p c, rfl⟩

/-- one connection attempt against an honest endpoint, seen from that endpoint: somebody dials it
(hello name, certificate or none, transcript signature), or it dials somebody (with or without an
expected identity) and gets a certificate and a signature back -/
inductive Attempt where
  | inbound (sni : Name) (c? : Option Cert) (hs : HsSig)
  | outbound (pin? : Option Key) (dialed : Name) (c : Cert) (hs : HsSig)

def Attempt.sig : Attempt → HsSig
  | .inbound _ _ hs => hs
  | .outbound _ _ _ hs => hs

/-- the identity the endpoint attributes to the other end of an attempt, if it admits it -/
def Attempt.attributed (accepted own : List Name) : Attempt → Option Key
  | .inbound sni c? hs => serverAccepts accepted sni c? hs
  | .outbound pin? dialed c hs => clientAccepts own pin? dialed c hs

/-- every identity the endpoint ever attributes over a history of attempts -/
def attributedOver (accepted own : List Name) (h : List Attempt) : List Key :=
  h.filterMap (Attempt.attributed accepted own)

/-- **Over every history of connection attempts, in both directions, of any length**: a party (or
coalition) holding exactly the private keys `A` - replaying honest certificates, presenting forged or
malformed ones, dialling or being dialled, any number of times in any order - is only ever attributed
identities in `A`. So no `X ∉ A` is ever admitted, listed or attributed because of it. -/
theorem C01_history_no_impersonation (A : List Key) (accepted own : List Name) (h : List Attempt)
    (hadv : ∀ a ∈ h, advSig A a.sig) : ∀ k ∈ attributedOver accepted own h, k ∈ A := by
  intro k hk
  obtain ⟨a, ha, hak⟩ := List.mem_filterMap.mp hk
  have hs := hadv a ha
  cases a with
  | inbound sni c? hs' =>
    obtain ⟨c, rfl, _⟩ := C01_attribution_server accepted sni c? hs' k hak
    exact C01_no_impersonation_server A accepted sni c hs' k hs hak
  | outbound pin? dialed c hs' => exact C01_no_impersonation_client A own pin? dialed c hs' k hs hak

/-- in particular an identity whose key the adversary lacks never appears, however the attempts are chosen -/
theorem C01_history_never_X (A : List Key) (X : Key) (hX : X ∉ A) (accepted own : List Name) (h : List Attempt)
    (hadv : ∀ a ∈ h, advSig A a.sig) : X ∉ attributedOver accepted own h :=
  fun hin => hX (C01_history_no_impersonation A accepted own h hadv X hin)

/-- non-vacuity: an adversary holding key 7 that replays the certificate of 9, forges one for 9 signed by
7, and finally connects honestly as 7 is attributed 7 once and 9 never -/
example : attributedOver [[0x61]] [[0x61]]
    [ .inbound [0x61] (some (honestCert 9 [0x61])) ⟨7, .ed25519⟩,
      .inbound [0x61] (some { honestCert 9 [0x61] with signer := 7 }) ⟨7, .ed25519⟩,
      .outbound (some 9) [0x61] (honestCert 9 [0x61]) ⟨7, .ed25519⟩,
      .inbound [0x61] (some (honestCert 7 [0x61])) ⟨7, .ed25519⟩ ] = [7] := by decide
end Anemo
