/-
C12 — Abandoned RPCs are cancelled remotely and leak nothing.
Abandoning a call drops its future: the SendStream wrapper resets the request direction if it was
not finished, and dropping the RecvStream stops the response direction (`abandonSignals`).  Proved
over the serving machine: whatever phase it is in when those signals arrive, it ends (`over`), a
running handler is dropped at that very step, a request that was not complete never reaches a
handler, and nothing on other streams changes.  Stream credit is conserved by open/close pairs.
That QUIC actually delivers RESET/STOP and returns stream credit is trusted and exercised by long
abandon histories on the fabric.
-/
import AnemoModel.Lemmas.Stream
namespace Anemo
open Gen

/-- a handler that is running when the caller abandons is dropped at once, not run to completion -/
theorem C12_handler_dropped (max : Nat) (sched : Bool) :
    Srv.step max sched .handling .stopSending = (.over, [.dropHandler, .resetSend, .ended false]) := rfl

/-- abandoning while the request is still being transmitted: the handler is never started -/
theorem C12_abandon_while_sending (max : Nat) (sched : Bool) (buf : Bytes) (sp : Bool) (rest : List SrvEvent) :
    (Srv.run max sched (.reading buf sp) (abandonSignals .sending ++ rest)).1 = .over ∧
    ((Srv.run max sched (.reading buf sp) (abandonSignals .sending ++ rest)).2.filter isInvoke) = [] := by
  have h1 : Srv.step max sched (.reading buf sp) .reset = (.over, [.resetSend, .ended false]) := rfl
  have hrun : Srv.run max sched (.reading buf sp) (abandonSignals .sending ++ rest) = (.over, [.resetSend, .ended false]) := by
    simp only [abandonSignals, List.cons_append, List.nil_append]
    rw [Srv.run, h1, srv_over_run]
    rfl
  rw [hrun]
  exact ⟨rfl, by simp [List.filter, isInvoke]⟩

/-- abandoning after the request was sent, in whatever phase the server is: it ends, and if the
handler had started it is dropped (or had already answered) -/
theorem C12_abandon_while_awaiting (max : Nat) (sched : Bool) :
    (Srv.step max sched .handling .stopSending).1 = .over ∧
    (Srv.step max sched .flushing .stopSending).1 = .over ∧
    (∀ buf, (Srv.step max sched (.reading buf false) .stopSending).1 = .reading buf true) :=
  ⟨rfl, rfl, fun _ => rfl⟩

/-- ... and if the stop signal overtook the last request bytes, the handler is dropped as soon as the
request completes (started at most once, never left running) -/
theorem C12_stop_before_complete (max : Nat) (sched : Bool) (buf bs : Bytes) (r : Req) (rest : Bytes)
    (hd : decodeRequest max (buf ++ bs) = .ok (r, rest)) :
    (Srv.step max sched (.reading buf true) (.data bs)).1 = .over ∧
    (∀ a ∈ (Srv.step max sched (.reading buf true) (.data bs)).2, isInvoke a = true →
        SrvAction.dropHandler ∈ (Srv.step max sched (.reading buf true) (.data bs)).2) := by
  have hs : Srv.step max sched (.reading buf true) (.data bs) =
      (.over, (if sched then [.invoke r, .dropHandler] else []) ++ [.resetSend, .ended false]) := by
    simp only [Srv.step, hd, if_true]
  rw [hs]
  refine ⟨rfl, ?_⟩
  cases sched
  · simp [isInvoke]
  · exact fun _ _ _ => .tail _ (.head _)

/-- abandoning one RPC never affects other RPCs in flight (isolation of stream machines) -/
theorem C12_siblings_unaffected (max : Nat) (c : ConnState) (s j : Nat) (hj : j ≠ s) (ph : CliPhase) :
    (Conn.run max c ((abandonSignals ph).map fun e => (s, e))).streams j = c.streams j :=
  Conn.run_other max c s (abandonSignals ph) j hj

/-! non-vacuity -/
example : (Srv.run (effMax none) true (.reading [] false) (abandonSignals .sending)).1 = .over := by decide

/-! ### the end of a stream is reported exactly once -/
def isEnded : SrvAction → Bool
  | .ended _ => true
  | _ => false

/-- how many more times the end of the stream can be reported: once, until the machine is `over` -/
def SrvPhase.endsLeft (p : SrvPhase) : Nat := if p = .over then 0 else 1

theorem srv_step_ends (max : Nat) (sched : Bool) (p : SrvPhase) (e : SrvEvent) :
    ((Srv.step max sched p e).2.filter isEnded).length + (Srv.step max sched p e).1.endsLeft = p.endsLeft := by
  fun_cases Srv.step max sched p e
  case case1 => cases sched <;> simp [List.filter, isEnded, SrvPhase.endsLeft]
  all_goals simp [List.filter, isEnded, SrvPhase.endsLeft]

theorem srv_run_ends (max : Nat) (sched : Bool) (p : SrvPhase) (es : List SrvEvent) :
    ((Srv.run max sched p es).2.filter isEnded).length + (Srv.run max sched p es).1.endsLeft = p.endsLeft := by
  induction es generalizing p with
  | nil => simp [Srv.run]
  | cons e t ih =>
    have h1 := srv_step_ends max sched p e
    have h2 := ih (Srv.step max sched p e).1
    simp only [Srv.run, List.filter_append, List.length_append]
    omega

/-- **Every request stream is wound up exactly once, or not yet**: over any event sequence at all (any
bytes, FIN/RESET/STOP at any point, any scheduler choice) the serving machine reports the end of the
stream -- the point where the task returns and every per-request resource (handler future, stream
halves, slot) is dropped -- exactly once if it has reached its final phase, and never before. -/
theorem C12_ends_exactly_once (max : Nat) (sched : Bool) (p : SrvPhase) (es : List SrvEvent) (hp : p ≠ .over) :
    ((Srv.run max sched p es).1 = .over → ((Srv.run max sched p es).2.filter isEnded).length = 1) ∧
    ((Srv.run max sched p es).1 ≠ .over → ((Srv.run max sched p es).2.filter isEnded).length = 0) := by
  have h := srv_run_ends max sched p es
  simp only [SrvPhase.endsLeft, if_neg hp] at h
  split at h
  next ho => exact ⟨fun _ => by omega, fun hn => absurd ho hn⟩
  next ho => exact ⟨fun hn => absurd hn ho, fun _ => by omega⟩

/-- once wound up, nothing more happens on the stream whatever the peer sends -/
theorem C12_over_is_final (max : Nat) (sched : Bool) (es : List SrvEvent) :
    Srv.run max sched .over es = (.over, []) := srv_over_run max sched es

example : ((Srv.run (effMax none) true (.reading [] false) (abandonSignals .sending)).2.filter isEnded).length = 1 := by decide

/-! ### stream credit -/
def Credit.runOps : List Bool → Credit → Option Credit          -- true = open a stream, false = a stream closes
  | [], c => some c
  | true :: t, c => match c.openStream with
    | some c' => Credit.runOps t c'
    | none => none
  | false :: t, c => Credit.runOps t c.closeStream

/-- While no close comes without a stream to close: a history in which the number of open streams never
exceeds the limit runs through, and after any history that runs through the streams still open are the
opens less the closes, within the limit. -/
theorem runOps_balanced (ops : List Bool) (c : Credit) (hc : c.open_ ≤ c.max)
    (hbal : ∀ k, (ops.take k).count false ≤ c.open_ + (ops.take k).count true) :
    ((∀ k, c.open_ + (ops.take k).count true ≤ c.max + (ops.take k).count false) →
      ∃ c', Credit.runOps ops c = some c') ∧
    ∀ c', Credit.runOps ops c = some c' →
      c'.max = c.max ∧ c'.open_ ≤ c'.max ∧ c'.open_ + ops.count false = c.open_ + ops.count true := by
  induction ops generalizing c with
  | nil => exact ⟨fun _ => ⟨c, rfl⟩, fun c' h => by cases h; simp [hc]⟩
  | cons op t ih =>
    -- the hypotheses on `op :: t` at `k + 1` are the hypotheses on `t` at `k`, taken from the next state
    cases op with
    | true =>
      simp only [Credit.runOps, Credit.openStream]
      by_cases hlt : c.open_ < c.max
      · obtain ⟨ih1, ih2⟩ := ih { c with open_ := c.open_ + 1 } hlt
          (fun k => by have := hbal (k + 1); simp at this ⊢; omega)
        rw [if_pos hlt]
        refine ⟨fun hcap => ih1 fun k => ?_, fun c' h => ?_⟩
        · have := hcap (k + 1); simp at this ⊢; omega
        · have := ih2 c' h; simp at this ⊢; omega
      · rw [if_neg hlt]
        refine ⟨fun hcap => ?_, nofun⟩
        have := hcap 1; simp at this; omega
    | false =>
      have h1 := hbal 1
      simp at h1
      obtain ⟨ih1, ih2⟩ := ih c.closeStream (Nat.le_trans (Nat.sub_le ..) hc)
        (fun k => by have := hbal (k + 1); simp [Credit.closeStream] at this ⊢; omega)
      refine ⟨fun hcap => ih1 fun k => ?_, fun c' h => ?_⟩
      · have := hcap (k + 1); simp [Credit.closeStream] at this ⊢; omega
      · have := ih2 c' h; simp [Credit.closeStream] at this ⊢; omega

/-- credit is conserved: `open_` never exceeds the limit, and after any history in which every opened
stream was closed (completed or abandoned alike) all credit is back -/
theorem C12_credit_conserved (ops : List Bool) (c c' : Credit) (hc : c.open_ ≤ c.max)
    (hrun : Credit.runOps ops c = some c')
    (hbal : ∀ k, (ops.take k).count false ≤ c.open_ + (ops.take k).count true) :
    c'.max = c.max ∧ c'.open_ ≤ c'.max ∧ c'.open_ + ops.count false = c.open_ + ops.count true :=
  (runOps_balanced ops c hc hbal).2 c' hrun

/-- in particular: any number of abandoned RPCs, each closing its stream, never exhausts capacity -/
theorem C12_capacity_restored (n max : Nat) (hpos : 0 < max) :
    Credit.runOps ((List.replicate n [true, false]).flatten) ⟨max, 0⟩ = some ⟨max, 0⟩ := by
  induction n with
  | zero => rfl
  | succ k ih =>
    simp only [List.replicate_succ, List.flatten_cons, List.cons_append, List.nil_append, Credit.runOps,
      Credit.openStream]
    rw [if_pos (by simpa using hpos)]
    simpa [Credit.closeStream] using ih

/-- **No open is ever refused while at most `max` streams are simultaneously open** - over every history
of opens and closes, of any length, where a close is the end of a stream however it ended (completed,
abandoned before, while or after transmission, timed out): abandoned RPCs count exactly like completed
ones, none of them keeps credit, so a later RPC is never blocked by earlier abandoned ones. -/
theorem C12_never_refused (ops : List Bool) (c : Credit) (hc : c.open_ ≤ c.max)
    (hbal : ∀ k, (ops.take k).count false ≤ c.open_ + (ops.take k).count true)
    (hcap : ∀ k, c.open_ + (ops.take k).count true ≤ c.max + (ops.take k).count false) :
    ∃ c', Credit.runOps ops c = some c' :=
  (runOps_balanced ops c hc hbal).1 hcap

/-- the converse, so the hypothesis is exactly the right one: an open IS refused when `max` streams are
open (a leaked stream - one that never closes - would therefore eventually block everybody) -/
theorem C12_refused_at_capacity (t : List Bool) (c : Credit) (h : c.open_ = c.max) :
    Credit.runOps (true :: t) c = none := by
  simp [Credit.runOps, Credit.openStream, h]

example : Credit.runOps [true, true, false, true, false, false, true] ⟨2, 0⟩ = some ⟨2, 1⟩ := by rfl
example : Credit.runOps [true, true, true] ⟨2, 0⟩ = none := by rfl

/-- **Abandonment is observed where the model says**: the service call (readiness and call in one `oneshot` future) is raced, unconditionally, against the caller stopping the response stream, and the caller side is one stream per call that is reset when the call future is dropped (read off the source on this run). -/
theorem C12_rpc_path_is_translated :
    Gen.serveStepsGen = [.readRequest, .stampPeerId, .stampOrigin, .stampRemoteAddr, .stampInbound,
                         .raceHandlerWithStop, .writeResponse, .finishSend, .awaitStopped, .returnOk] ∧
    Gen.callStepsGen = [.openBi, .frameSend, .frameRecv, .writeRequest, .finishSend, .readResponse,
                        .stampResponsePeerId, .returnResponse] ∧
    Gen.rpcPathShapeChecked = true := ⟨rfl, rfl, rfl⟩

end Anemo
