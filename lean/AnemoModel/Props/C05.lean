/-
C05 — Simultaneous mutual dials converge on one shared connection.
(1) the tie-break, for ALL pairs of distinct identities: both ends condemn the same connection and
the survivor is the one dialled by the greater identity, whatever the arrival order;
(2) convergence, for ALL schedules: every order of the four registrations and of the handler exits
that the closes enable, with the loser's registrations optional, ends with exactly the winner
registered on both sides, open, last announced by NewPeer, and nothing further enabled.
The schedule space is finite and is enumerated completely inside Lean (`Duo.reach`) for both
orders of the two identities; `decide` makes the kernel evaluate the whole enumeration.  Identity
pairs reduce to the bit `a < b` by `C05_tiebreak_order_only` (the set operations inspect ids only
through key equality and through the tie-break).
-/
import AnemoModel.Duo
import AnemoModel.Lemmas.Peers
namespace Anemo
open Gen

/-- the decision depends only on the relative order of the two identities -/
theorem C05_tiebreak_order_only (a b a' b' : PeerId) (e n : Origin)
    (h1 : a < b ↔ a' < b') (h2 : b < a ↔ b' < a') : tieBreak a b e n = tieBreak a' b' e n := by
  cases e <;> cases n <;> simp [tieBreak, h1, h2]

/-- existing = the one we dialled, new = the one they dialled: ours is dropped iff they are greater -/
theorem C05_tiebreak_out_in (own remote : Nat) :
    tieBreak own remote .outbound .inbound = true ↔ own < remote := by simp [tieBreak]

/-- existing = theirs, new = ours: theirs is dropped iff we are greater -/
theorem C05_tiebreak_in_out (own remote : Nat) :
    tieBreak own remote .inbound .outbound = true ↔ remote < own := by simp [tieBreak]

/-- Both ends take the same decision about the same pair of connections.  With `c1` dialled by `a`
and `c2` dialled by `b`: if c1 is registered first on both sides, `a` (c1 outbound, c2 inbound) and
`b` (c1 inbound, c2 outbound) both drop c1 exactly when `a < b`; -/
theorem C05_tiebreak_symmetric (a b : Nat) :
    tieBreak a b .outbound .inbound = tieBreak b a .inbound .outbound := by
  simp [tieBreak]

/-- ... and whichever order the two connections arrive in, the survivor is the connection dialled by
the greater identity: if ours arrived first it is replaced iff they are greater; if theirs arrived
first it is replaced iff we are greater (for distinct identities these are complementary). -/
theorem C05_survivor_dialled_by_greater (own remote : Nat) (hne : own ≠ remote) :
    (tieBreak own remote .outbound .inbound = true ↔ tieBreak own remote .inbound .outbound = false) := by
  rw [C05_tiebreak_out_in, ← Bool.not_eq_true, C05_tiebreak_in_out]
  omega

def Duo.init (aLtB : Bool) : Duo := if aLtB then { aId := 1, bId := 2 } else { aId := 2, bId := 1 }

/-- The whole schedule tree, enumerated ONCE per identity order; the four theorems below read their
clause off it.  (Each `decide` over `reach 8` costs the kernel the full enumeration.) -/
theorem Duo.reach_checked (aLtB : Bool) : ∀ d ∈ (Duo.init aLtB).reach 8,
    (d.quiet = true →
      d.converged = true ∧
      (d.offered.length = 4 → allActs.all (fun act => !d.enabled act) = true) ∧
      (lookupConn d.a.conns d.bId).map (·.id) = some (if aLtB then 2 else 1) ∧
      (lookupConn d.b.conns d.aId).map (·.id) = some (if aLtB then 2 else 1)) ∧
    (d.offered.length + d.exited.length = 8 → allActs.all (fun act => !d.enabled act) = true) := by
  cases aLtB <;> decide +kernel

/-- every reachable quiet state has converged (both identity orders, every schedule) -/
theorem C05_converges (aLtB : Bool) :
    ∀ d ∈ (Duo.init aLtB).reach 8, d.quiet = true → d.converged = true :=
  fun d hd hq => ((Duo.reach_checked aLtB d hd).1 hq).1

/-- 8 actions exhaust every schedule: no action can happen twice, so no state at depth 8 has anything enabled -/
theorem C05_reach_complete (aLtB : Bool) :
    ∀ d ∈ (Duo.init aLtB).reach 8, (d.offered.length + d.exited.length = 8 → allActs.all (fun act => !d.enabled act) = true) :=
  fun d hd => (Duo.reach_checked aLtB d hd).2

/-- once all four registrations and the enabled exits have happened nothing more is enabled: no
further connect or disconnect events for the pair -/
theorem C05_no_further_events (aLtB : Bool) :
    ∀ d ∈ (Duo.init aLtB).reach 8, d.quiet = true → d.offered.length = 4 →
      allActs.all (fun act => !d.enabled act) = true :=
  fun d hd hq => ((Duo.reach_checked aLtB d hd).1 hq).2.1

/-- the survivor is a function of the identities and dial directions only: at every quiet state,
in every schedule, it is the connection dialled by the greater identity -/
theorem C05_order_independent (aLtB : Bool) :
    ∀ d ∈ (Duo.init aLtB).reach 8, d.quiet = true →
      (lookupConn d.a.conns d.bId).map (·.id) = some (if aLtB then 2 else 1) ∧
      (lookupConn d.b.conns d.aId).map (·.id) = some (if aLtB then 2 else 1) :=
  fun d hd hq => ((Duo.reach_checked aLtB d hd).1 hq).2.2

/-! ### membership in the schedule tree -/

/-- `allActs` lists every action, so `reach` follows every enabled one -/
theorem mem_allActs (act : DAct) : act ∈ allActs := by
  rcases act with ⟨_ | _, _ | _⟩ | ⟨_ | _, _ | _⟩ <;> decide

theorem Duo.mem_reach_self (n : Nat) (d : Duo) : d ∈ d.reach n := by
  cases n <;> exact List.mem_cons_self

theorem Duo.mem_reach_step {n : Nat} {d d' : Duo} (act : DAct) (hen : d.enabled act = true)
    (h : d' ∈ (d.step act).reach n) : d' ∈ d.reach (n + 1) :=
  List.mem_cons_of_mem _ (List.mem_flatMap.mpr ⟨act, List.mem_filter.mpr ⟨mem_allActs act, hen⟩, h⟩)

/-! ### non-vacuity: quiet states exist, including ones reached through a replacement -/
example : ∃ d ∈ (Duo.init true).reach 8, d.quiet = true ∧ d.a.closed ≠ [] :=
  ⟨_, Duo.mem_reach_step (.add .A .c1) (by decide) <| Duo.mem_reach_step (.add .B .c1) (by decide) <|
      Duo.mem_reach_step (.add .A .c2) (by decide) <| Duo.mem_reach_step (.add .B .c2) (by decide) <|
      Duo.mem_reach_step (.exit .A .c1) (by decide) <| Duo.mem_reach_step (.exit .B .c1) (by decide) <|
      Duo.mem_reach_self 2 _,
    by decide⟩

end Anemo

namespace Anemo
/-- **The two-node analysis is the N-node analysis.**  In a network of any size, with any traffic between
other pairs (connections arriving, being replaced, ending) interleaved in any way, what node `own`
holds for peer `q` is what the operations about `q` alone produce: the pair's mutual-dial convergence
(`C05_converges`, on two nodes) cannot be disturbed by, and does not depend on, third parties. -/
theorem C05_third_parties_irrelevant (own : PeerId) (ops : List Op) (q : PeerId) :
    lookupConn (Active.run own {} ops).conns q = lookupConn (Active.run own {} (ops.filter (fun o => o.peer = q))).conns q :=
  Active.run_lookup_project own ops {} {} q rfl

/-- **Every established connection, inbound or outbound, goes through `add`** (word for word the functions the two-node model was written for, checked on this run): `handle_connecting_result` hands every successful handshake to `add_peer`, which registers it through `ActivePeers::add` and starts a handler only for a connection that was kept; no other path registers, shortcuts or refuses a connection after the handshake. -/
theorem C05_dial_path_is_pinned : Gen.dialingShapeChecked = true := rfl
end Anemo
