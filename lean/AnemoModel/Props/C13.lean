/-
C13 — Background dialing: who is dialed, how often, and that it succeeds.
Theorems about one connectivity check (`tick`) for every known-peer table (in any iteration order),
every configuration and every state, and about the backoff arithmetic over any number of failures.
Time-level consequences (connected within one interval, within min(max, k*step) + two intervals)
follow from these plus the tick period; the tick period, connect times and the loss detection that
makes a peer "not connected" again are runtime behaviour tied by the virtual-time conformance run.
-/
import AnemoModel.Lemmas.Manager
namespace Anemo
open Gen

/-! ### who is dialed -/

/-- every dial started by a check goes to a known peer that is High, not ourselves, has an address,
is not connected, has no background dial in flight and is past its backoff -/
theorem C13_only_eligible (cfg : TickCfg) (now : Nat) (known : List KnownPeer) (connected : List Nat)
    (pc : Nat) (done : List (Nat × Bool)) (st : TickState) (p i : Nat)
    (h : (p, i) ∈ (tick cfg now known connected pc done st).2) :
    ∃ k ∈ known, k.id = p ∧ k.aff = .high ∧ p ≠ cfg.own ∧ 0 < k.naddr ∧ p ∉ connected ∧
      p ∉ (drain cfg now st done).pending ∧
      (∀ b, lookupBackoff (drain cfg now st done).backoffs p = some b → b.until_ < now) ∧
      i = addrIndex (drain cfg now st done) k ∧ i < k.naddr := by
  rw [tick_dials] at h
  obtain ⟨k, hk, heq⟩ := List.mem_map.mp h
  cases heq
  obtain ⟨hkn, hel⟩ := List.mem_filter.mp (List.mem_of_mem_take hk)
  obtain ⟨ha, hown, hna, hconn, hpend, hb⟩ := eligible_iff.mp hel
  exact ⟨k, hkn, rfl, ha, hown, hna, hconn, hpend, hb, rfl, Nat.mod_lt _ hna⟩

/-- never itself, never Allowed/Never peers, never peers without addresses, never connected ones -/
theorem C13_never_dials (cfg : TickCfg) (now : Nat) (known : List KnownPeer) (connected : List Nat)
    (pc : Nat) (done : List (Nat × Bool)) (st : TickState) (hnd : (known.map (·.id)).Nodup) (k : KnownPeer) (hk : k ∈ known)
    (hbad : k.aff ≠ .high ∨ k.id = cfg.own ∨ k.naddr = 0 ∨ k.id ∈ connected ∨ k.id ∈ (drain cfg now st done).pending) :
    ∀ i, (k.id, i) ∉ (tick cfg now known connected pc done st).2 := by
  intro i hmem
  obtain ⟨k', hk', hid, ha, hown, hna, hconn, hpend, _, _, _⟩ := C13_only_eligible cfg now known connected pc done st k.id i hmem
  cases List.inj_on_of_nodup_map hnd hk' hk hid
  rcases hbad with h | h | h | h | h
  · exact h ha
  · exact hown h
  · omega
  · exact hconn h
  · exact hpend h

/-- no background dial is started while the number of connections being established is at the
configured maximum, and never more than the room left -/
theorem C13_cap (cfg : TickCfg) (now : Nat) (known : List KnownPeer) (connected : List Nat)
    (pc : Nat) (done : List (Nat × Bool)) (st : TickState) :
    (tick cfg now known connected pc done st).2.length ≤ cfg.cap - pc ∧
    (cfg.cap ≤ pc → (tick cfg now known connected pc done st).2 = []) := by
  rw [tick_dials, List.length_map]
  refine ⟨List.length_take_le _ _, fun h => ?_⟩
  rw [Nat.sub_eq_zero_of_le h, List.take_zero, List.map_nil]

/-- liveness of one check: if the room left covers all eligible peers, every eligible peer is dialed now -/
theorem C13_dialed_when_eligible (cfg : TickCfg) (now : Nat) (known : List KnownPeer) (connected : List Nat)
    (pc : Nat) (done : List (Nat × Bool)) (st : TickState) (k : KnownPeer) (hk : k ∈ known)
    (hel : eligible cfg now connected (drain cfg now st done) k = true)
    (hroom : (known.filter (eligible cfg now connected (drain cfg now st done))).length ≤ cfg.cap - pc) :
    (k.id, addrIndex (drain cfg now st done) k) ∈ (tick cfg now known connected pc done st).2 := by
  rw [tick_dials, List.take_of_length_le hroom]
  exact List.mem_map.mpr ⟨k, List.mem_filter.mpr ⟨hk, hel⟩, rfl⟩

/-- a dialed peer is marked as being dialed, so it is not dialed again while that dial is in flight -/
theorem C13_marks_pending (cfg : TickCfg) (now : Nat) (known : List KnownPeer) (connected : List Nat)
    (pc : Nat) (done : List (Nat × Bool)) (st : TickState) (p i : Nat)
    (h : (p, i) ∈ (tick cfg now known connected pc done st).2) :
    p ∈ (tick cfg now known connected pc done st).1.pending := by
  rw [tick_pending]
  exact List.mem_append_right _ (List.mem_map.mpr ⟨_, h, rfl⟩)

/-! ### backoff arithmetic -/

/-- `k` consecutive noticed failures, the last one noticed at `now` -/
def failK (step max : Nat) : Nat → Nat → Option Backoff → Backoff
  | 0, now, prev => Backoff.update now step max prev
  | k+1, now, prev => failK step max k now (some (Backoff.update now step max prev))

theorem update_attempts (now step max : Nat) (prev : Option Backoff) :
    (Backoff.update now step max prev).attempts = (match prev with | some b => b.attempts | none => 0) + 1 := rfl

/-- after k consecutive failures (k ≥ 1) the next attempt comes no sooner than min(max, k*step)
after the failure was noticed; and exactly then the peer becomes eligible again (strictly after) -/
theorem C13_backoff_value (now step max k : Nat) (hk : 1 ≤ k) (hsmall : k < 2^32) :
    let b := (List.range k).foldl (fun (acc : Option Backoff) _ => some (Backoff.update now step max acc)) none
    ∃ bb, b = some bb ∧ bb.attempts = k ∧ bb.until_ = now + min max (step * k) := by
  obtain ⟨n, rfl⟩ : ∃ n, k = n + 1 := ⟨k - 1, (Nat.sub_add_cancel hk).symm⟩
  refine ⟨_, Backoff.foldl_update now step max n, rfl, ?_⟩
  -- below `2^32` failures the `u32` saturation of the attempt count does not bite
  rw [Nat.min_eq_left (Nat.le_sub_one_of_lt hsmall)]

/-- spacing: a peer whose backoff says `until_` is not dialed at any check at or before that time -/
theorem C13_spacing (cfg : TickCfg) (now : Nat) (connected : List Nat) (st : TickState) (k : KnownPeer) (b : Backoff)
    (hb : lookupBackoff st.backoffs k.id = some b) (hnow : now ≤ b.until_) :
    eligible cfg now connected st k = false := by
  refine Bool.eq_false_iff.mpr fun h => ?_
  obtain ⟨-, -, -, -, -, hlt⟩ := eligible_iff.mp h
  exact Nat.lt_irrefl _ (Nat.lt_of_lt_of_le (hlt b hb) hnow)

/-- attempts rotate through the peer's addresses in order: the address used is (number of
consecutive failures so far) mod (number of addresses) -/
theorem C13_rotation (st : TickState) (k : KnownPeer) :
    addrIndex st k = (match lookupBackoff st.backoffs k.id with | some b => b.attempts | none => 0) % k.naddr := rfl

/-- a noticed failure of a pending dial advances the attempt counter by one (so the next attempt uses
the next address) and sets the backoff from the moment it was noticed -/
theorem C13_failure_noticed (cfg : TickCfg) (now : Nat) (st : TickState) (p : Nat) (hp : p ∈ st.pending) :
    lookupBackoff (drain cfg now st [(p, false)]).backoffs p =
      some (Backoff.update now cfg.step cfg.max (lookupBackoff st.backoffs p)) ∧
    p ∉ (drain cfg now st [(p, false)]).pending := by
  refine ⟨?_, fun h => (mem_drain_pending.mp h).2 _ (List.mem_singleton_self _) rfl⟩
  simp only [drain, hp, if_true]
  exact lookupBackoff_setBackoff ..

/-- a noticed success clears the backoff: the next loss is retried without delay from the first address -/
theorem C13_reset_on_success (cfg : TickCfg) (now : Nat) (st : TickState) (p : Nat) (hp : p ∈ st.pending) :
    lookupBackoff (drain cfg now st [(p, true)]).backoffs p = none ∧ p ∉ (drain cfg now st [(p, true)]).pending := by
  refine ⟨?_, fun h => (mem_drain_pending.mp h).2 _ (List.mem_singleton_self _) rfl⟩
  simp only [drain, hp, if_true]
  exact lookupBackoff_filter_ne ..

/-! non-vacuity -/
example :
    let cfg : TickCfg := { own := 1, cap := 2, step := 10000, max := 60000 }
    let known := [⟨1, .high, 1⟩, ⟨2, .high, 2⟩, ⟨3, .allowed, 1⟩, ⟨4, .high, 0⟩, ⟨5, .high, 1⟩, ⟨6, .high, 3⟩]
    let r1 := tick cfg 5000 known [5] 0 [] {}
    let r2 := tick cfg 10000 known [5, 6] 0 [(2, false), (6, true)] r1.1
    let r3 := tick cfg 25000 known [5, 6] 0 [] r2.1
    r1.2 = [(2, 0), (6, 0)] ∧ r2.2 = [] ∧ r3.2 = [(2, 1)] := by decide


/-- a schedule of connectivity checks after the one at `t0`: strictly later each time, never more than
`G` (= interval + jitter) apart -/
def ticksOk (G : Nat) : Nat → List Nat → Prop
  | _, [] => True
  | t0, t :: ts => t0 < t ∧ t ≤ t0 + G ∧ ticksOk G t ts

/-- in such a schedule that runs past `d`, the first check strictly after `d` comes no later than `d + G` -/
theorem first_tick_after (G : Nat) (ts : List Nat) (t0 d : Nat) (h : ticksOk G t0 ts) (h0 : t0 ≤ d)
    (hpast : ∃ t ∈ ts, d < t) :
    ∃ pre t post, ts = pre ++ t :: post ∧ (∀ x ∈ pre, x ≤ d) ∧ d < t ∧ t ≤ d + G := by
  obtain ⟨x, hx, hdx⟩ := hpast
  induction ts generalizing t0 with
  | nil => cases hx
  | cons t ts ih =>
    obtain ⟨h1, h2, h3⟩ := h
    by_cases hd : d < t
    · exact ⟨[], t, ts, rfl, fun _ hx => absurd hx List.not_mem_nil, hd, Nat.le_trans h2 (Nat.add_le_add_right h0 G)⟩
    · have hx' : x ∈ ts := (List.mem_cons.mp hx).resolve_left fun e => hd (e ▸ hdx)
      obtain ⟨pre, u, post, he, hp, hu1, hu2⟩ := ih t h3 (Nat.le_of_not_lt hd) hx'
      exact ⟨t :: pre, u, post, congrArg (t :: ·) he, List.forall_mem_cons.mpr ⟨Nat.le_of_not_lt hd, hp⟩, hu1, hu2⟩

/-- **Redial window.**  A High-affinity peer with an address, not this node, whose k-th consecutive
failure was noticed at the check at `t0` (so its entry says "not before `d = t0 + min(max, k*step)`"):
in any schedule of later checks at most `G` apart that runs past `d`, no check at or before `d` finds
it eligible (spacing), and the FIRST check after `d` -- which comes no later than `d + G` -- does,
provided it is then neither connected nor being dialled. -/
theorem C13_redial_window (cfg : TickCfg) (G : Nat) (ts : List Nat) (t0 : Nat) (k : KnownPeer) (b : Backoff)
    (h : ticksOk G t0 ts) (h0 : t0 ≤ b.until_) (hpast : ∃ t ∈ ts, b.until_ < t)
    (hhigh : k.aff = .high) (hself : k.id ≠ cfg.own) (haddr : 0 < k.naddr) :
    ∃ pre t post, ts = pre ++ t :: post ∧ t ≤ b.until_ + G ∧
      (∀ x ∈ pre, ∀ connected st, lookupBackoff st.backoffs k.id = some b → eligible cfg x connected st k = false) ∧
      (∀ connected st, lookupBackoff st.backoffs k.id = some b → k.id ∉ connected → k.id ∉ st.pending →
        eligible cfg t connected st k = true) := by
  obtain ⟨pre, t, post, he, hp, ht1, ht2⟩ := first_tick_after G ts t0 b.until_ h h0 hpast
  refine ⟨pre, t, post, he, ht2, ?_, ?_⟩
  · intro x hx connected st hb
    exact C13_spacing cfg x connected st k b hb (hp x hx)
  · intro connected st hb hc hpd
    exact eligible_iff.mpr ⟨hhigh, hself, haddr, hc, hpd, fun b' hb' => Option.some.inj (hb.symm.trans hb') ▸ ht1⟩

example : ticksOk 6 10 [15, 21, 26] ∧ ∃ t ∈ [15, 21, 26], 20 < t := by
  refine ⟨by simp [ticksOk], 21, by decide, by decide⟩

/-! ### histories of checks -/

/-- what one connectivity check sees -/
structure TickIn where
  now : Nat
  known : List KnownPeer
  connected : List Nat
  pendingConns : Nat
  done : List (Nat × Bool)

/-- the dialer over a whole history of checks; returns the final state and the dials of every check -/
def runTicks (cfg : TickCfg) : TickState → List TickIn → TickState × List (List (Nat × Nat))
  | st, [] => (st, [])
  | st, i :: rest =>
    let r := tick cfg i.now i.known i.connected i.pendingConns i.done st
    let r2 := runTicks cfg r.1 rest
    (r2.1, r.2 :: r2.2)

theorem drain_pending_sub (cfg : TickCfg) (now : Nat) (done : List (Nat × Bool)) (st : TickState) :
    ∀ p ∈ (drain cfg now st done).pending, p ∈ st.pending :=
  fun _ hp => (mem_drain_pending.mp hp).1

/-- one check keeps "at most one background dial in flight per peer" -/
theorem tick_pending_nodup (cfg : TickCfg) (i : TickIn) (st : TickState) (h : st.pending.Nodup)
    (hk : (i.known.map (·.id)).Nodup) :
    (tick cfg i.now i.known i.connected i.pendingConns i.done st).1.pending.Nodup := by
  rw [tick_pending, List.nodup_append]
  refine ⟨?_, ?_, ?_⟩
  · rw [drain_pending]
    exact h.filter _
  · rw [tick_dials, List.map_map]
    exact (((List.take_sublist _ _).trans List.filter_sublist).map _).nodup hk
  · intro a ha b hb hab
    obtain ⟨⟨p, x⟩, hd, rfl⟩ := List.mem_map.mp hb
    have hap : a = p := hab
    obtain ⟨_, _, _, _, _, _, _, hpend, _⟩ :=
      C13_only_eligible cfg i.now i.known i.connected i.pendingConns i.done st p x hd
    exact hpend (hap ▸ ha)

/-- **Over every history of connectivity checks** -- any tables, any reachability, any dial results in
any order -- a peer never has two background dials in flight ("never dials peers already being
dialed", lifted from one check to all of them). -/
theorem C13_one_dial_per_peer (cfg : TickCfg) (ins : List TickIn) (st : TickState) (h : st.pending.Nodup)
    (hk : ∀ i ∈ ins, (i.known.map (·.id)).Nodup) :
    (runTicks cfg st ins).1.pending.Nodup := by
  induction ins generalizing st with
  | nil => exact h
  | cons i rest ih =>
    simp only [runTicks]
    exact ih _ (tick_pending_nodup cfg i st h (hk i List.mem_cons_self)) fun j hj =>
      hk j (List.mem_cons_of_mem _ hj)

/-- ... and a check never dials a peer whose earlier dial has not been reported back yet -/
theorem C13_no_redial_while_pending (cfg : TickCfg) (i : TickIn) (st : TickState) (p a : Nat)
    (hp : p ∈ st.pending) (hnot : ∀ e ∈ i.done, e.1 ≠ p) :
    (p, a) ∉ (tick cfg i.now i.known i.connected i.pendingConns i.done st).2 := by
  intro hd
  obtain ⟨k, _, _, _, _, _, _, hpend, _⟩ := C13_only_eligible cfg i.now i.known i.connected i.pendingConns i.done st p a hd
  exact hpend (mem_drain_pending.mpr ⟨hp, fun e he => (hnot e he).symm⟩)

/-- the cap bounds the background dials in flight after a check: if the dials still in flight are among
the connections being established (they are: a background dial is one), then after the check at most
`max cap pendingConns` are -/
theorem C13_pending_bounded (cfg : TickCfg) (i : TickIn) (st : TickState)
    (h : (drain cfg i.now st i.done).pending.length ≤ i.pendingConns) :
    (tick cfg i.now i.known i.connected i.pendingConns i.done st).1.pending.length ≤ max cfg.cap i.pendingConns := by
  rw [tick_pending, List.length_append, List.length_map, ← Nat.sub_add_eq_max, Nat.add_comm (cfg.cap - _)]
  exact Nat.add_le_add h (C13_cap ..).1

/-- **The tick model is the translation of the source.** The eligibility predicate of the model is the
conjunction of exactly the clauses the translator read off `handle_connectivity_check` (High affinity,
not self, has an address, not connected, no pending background dial, strictly past its backoff); the dial
budget subtracts the number of connections being established (background or not); and the shapes the
other theorems rely on were recognised on this run: address index = attempts mod number of addresses, a
noticed success clears the backoff state, a noticed failure updates it with (now, step, max) in that
order, `DialBackoffState::{new, update}` compute `now + min(max, step * attempts)`, and the check is
driven by a fixed-period `interval` (not by a timer that other events restart). -/
theorem C13_tick_is_translated :
    (∀ cfg now connected st k, eligibleGen cfg now connected st k = eligible cfg now connected st k) ∧
    (∀ cap pc pd, budgetGen cap pc pd = cap - pc) ∧
    Gen.addressRotationGen = true ∧ Gen.successClearsBackoffGen = true ∧ Gen.failureUpdatesBackoffGen = true ∧
    Gen.backoffFormulaGen = true ∧ Gen.fixedPeriodTickGen = true := by
  refine ⟨?_, ?_, rfl, rfl, rfl, rfl, rfl⟩
  · intro cfg now connected st k
    simp only [eligibleGen, Gen.eligibleClausesGen, List.all_cons, List.all_nil, evalEligClause, eligible,
      Bool.and_assoc, Bool.and_true]
  · exact fun _ _ _ => rfl

end Anemo

namespace Anemo
/-- **A background dial is an ordinary dial** (word for word the functions the model was written for, checked on this run): `dial_peer` spawns `dial_peer_task` into the pending-connection set that the budget counts, and its outcome reaches the pending-dial table through the oneshot the connectivity check drains. -/
theorem C13_dial_path_is_pinned : Gen.dialingShapeChecked = true := rfl
end Anemo
