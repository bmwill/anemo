/-
C19 — Per-peer rate limit admits no more than the quota.
The limiter is governor 0.6's keyed GCRA (`Gcra.check`).  One clause of the property is FALSE of
it as it stands and is kept as a full statement with its negation proved by a concrete witness
(replayed against the real limiter by the check):
* `C19_window_bound` (admitted in any window ≤ burst + W/t): after an idle period the limiter admits
  burst + 1 requests at one instant (`C19_idle_burst_witness`).  Proved instead, for every history:
  ≤ burst + 1 + W/t (`C19_window_bound_partial`, tight), and ≤ burst + W/t for windows that start
  at a key's first-ever admission (`C19_window_bound_fresh`).
* the hint clause (`C19_hint_positive`) holds since the `fix:` commit that reads the clock before the
  check; `C19_hint_zero_if_clock_read_after` records why the original order (clock read after the
  check) produced zero hints.
-/
import AnemoModel.Lemmas.Tower
namespace Anemo

/-- refused requests leave the limiter state untouched -/
theorem C19_refused_state_unchanged (g : Gcra) (st : Option Nat) (now : Nat)
    (h : (g.check st now).1 = false) : (g.check st now).2 = st := by
  rw [Gcra.check_of_lt (Gcra.check_refused_iff.mp h)]

/-- potential argument: every admission pushes the state (the theoretical arrival time) up by at least
`t`, and calls no later than `E` never push it past `E + tau + t` -/
theorem runCount_potential (g : Gcra) (T E : Nat) (xs : List Nat) (hT : T ≤ E + g.tau + g.t) (hE : ∀ x ∈ xs, x ≤ E) :
    T + g.runCount (some T) xs * g.t ≤ E + g.tau + g.t := by
  induction xs generalizing T with
  | nil => rw [Gcra.runCount, Nat.zero_mul]; exact hT
  | cons x rest ih =>
    obtain ⟨hx, hrest⟩ := List.forall_mem_cons.mp hE
    rcases Nat.lt_or_ge x (g.earliest (some T) x) with h | h
    · rw [Gcra.runCount_cons_of_lt h]
      exact ih T hT hrest
    · -- one admission less to count, from a state at least `t` higher
      rw [Gcra.runCount_cons_of_le h, Option.getD_some, Nat.add_mul, Nat.one_mul, ← Nat.add_assoc]
      exact Nat.le_trans (Nat.add_le_add_right (Nat.add_le_add_right (Nat.le_max_left ..) _) _)
        (ih _ (Gcra.admitted_state_le h hx) hrest)

/-- the window bound behind both `C19_window_bound_*`.  A key whose state `T` is already `k` periods past
the start `s` of the window (and not beyond what calls up to `s + W` can produce) has room for at most
`burst + 1 - k` admissions up to `s + W` on top of the `W / t` that the window itself replenishes. -/
theorem runCount_window (g : Gcra) (ht : 0 < g.t) (T s W k : Nat) (xs : List Nat)
    (hlo : s + k * g.t ≤ T) (hhi : T ≤ s + W + g.tau + g.t) (hxs : ∀ x ∈ xs, x ≤ s + W) :
    g.runCount (some T) xs + k ≤ g.burst + 1 + W / g.t := by
  have hpot := runCount_potential g T (s + W) xs hhi hxs
  rw [Gcra.tau] at hpot
  -- multiplied out: `(count + k) * t ≤ W + t * (burst + 1)`
  rw [Nat.add_comm _ (W / g.t), ← Nat.add_mul_div_left _ _ ht, Nat.le_div_iff_mul_le ht, Nat.add_mul, Nat.mul_add]
  omega

/-- PARTIAL (what holds for every history, any prior state of the key, any times inside the window):
the number of requests admitted during `[s, s+W]` is at most burst + 1 + ⌊W/t⌋ -/
theorem C19_window_bound_partial (g : Gcra) (ht : 0 < g.t) (st : Option Nat) (s W : Nat) (xs : List Nat)
    (hwin : ∀ x ∈ xs, s ≤ x ∧ x ≤ s + W) :
    g.runCount st xs ≤ g.burst + 1 + W / g.t := by
  induction xs generalizing st with
  | nil => exact Nat.zero_le _
  | cons x rest ih =>
    obtain ⟨hx, hrest⟩ := List.forall_mem_cons.mp hwin
    rcases Nat.lt_or_ge x (g.earliest st x) with h | h
    · rw [Gcra.runCount_cons_of_lt h]
      exact ih st hrest
    · -- the first admission in the window leaves the state one period past `s`
      rw [Gcra.runCount_cons_of_le h, Nat.add_comm]
      refine runCount_window g ht _ s W 1 rest ?_ (Gcra.admitted_state_le h hx.2) (fun y hy => (hrest y hy).2)
      rw [Nat.one_mul]
      exact Nat.add_le_add_right (Nat.le_trans hx.1 (Nat.le_max_right ..)) _

/-- for a window that starts at the key's first-ever admission the bound of the property holds:
at most burst + ⌊W/t⌋ (needs a burst of at least one, as governor's quota type guarantees) -/
theorem C19_window_bound_fresh (g : Gcra) (ht : 0 < g.t) (hb : 1 ≤ g.burst) (x W : Nat) (rest : List Nat)
    (hwin : ∀ y ∈ rest, x ≤ y ∧ y ≤ x + W) :
    g.runCount none (x :: rest) ≤ g.burst + W / g.t := by
  -- the first admission of a fresh key leaves the state two periods past `x`
  rw [Gcra.runCount, Gcra.check_none hb]
  show 1 + g.runCount (some (x + g.t + g.t)) rest ≤ _
  have htau : g.t ≤ g.tau := Nat.le_mul_of_pos_right _ hb
  have := runCount_window g ht (x + g.t + g.t) x W 2 rest (by rw [Nat.two_mul, Nat.add_assoc]; exact Nat.le_refl _)
    (Nat.add_le_add_right (Nat.add_le_add (Nat.le_add_right x W) htau) _) (fun y hy => (hwin y hy).2)
  omega

/-- FULL statement of the window clause of the property.  False, see the witness. -/
def C19_window_bound : Prop :=
  ∀ (g : Gcra) (st : Option Nat) (s W : Nat) (xs : List Nat), 0 < g.t → 1 ≤ g.burst →
    (∀ x ∈ xs, s ≤ x ∧ x ≤ s + W) → g.runCount st xs ≤ g.burst + W / g.t

/-- negation witness: quota 1 per 10 ns, burst 1, key last used long ago (tat = 20); two requests at
instant 100 are BOTH admitted: 2 > burst + 0 -/
theorem C19_idle_burst_witness : ¬ C19_window_bound := by
  intro h
  have := h ⟨10, 1⟩ (some 20) 100 0 [100, 100] (by decide) (by decide) (by decide)
  revert this; decide

/-- the partial bound is tight -/
theorem C19_window_bound_partial_tight :
    (⟨10, 1⟩ : Gcra).runCount (some 20) [100, 100] = 1 + 1 + 0 / 10 := by decide

/-- Block mode: waiting until the reported earliest instant is enough -- a check at that instant (or
later) is admitted, provided nobody else used the key meanwhile -/
theorem C19_block_waits_until_permitted (g : Gcra) (T now later : Nat)
    (hl : g.earliest (some T) now ≤ later) : (g.check (some T) later).1 = true := by
  -- for a key already seen, `earliest` does not depend on the time of the call
  have h : g.earliest (some T) later ≤ later := hl
  rw [Gcra.check_of_le h]

/-- a refusal is never earlier than necessary: strictly before the earliest instant the key stays refused -/
theorem C19_refused_before_earliest (g : Gcra) (T now : Nat) (h : now < g.earliest (some T) now) :
    (g.check (some T) now).1 = false :=
  Gcra.check_refused_iff.mpr h

/-- quotas are per peer: a keyed limiter is a function from peers to states, and a check for one
peer reads and writes only that peer's state -/
def keyedCheck (g : Gcra) (states : Nat → Option Nat) (p now : Nat) : Bool × (Nat → Option Nat) :=
  let r := g.check (states p) now
  (r.1, fun q => if q = p then r.2 else states q)

theorem C19_per_peer (g : Gcra) (states : Nat → Option Nat) (p q now : Nat) (hq : q ≠ p) :
    (keyedCheck g states p now).2 q = states q ∧
    (keyedCheck g states p now).1 = (g.check (states p) now).1 := by
  simp [keyedCheck, hq]

/-- the layer: refused requests never reach the service -/
def rateCall (g : Gcra) (st : Option Nat) (now : Nat) (req : Nat) : Option Nat × List Nat :=
  if (g.check st now).1 then ((g.check st now).2, [req]) else (st, [])

theorem C19_refused_not_delivered (g : Gcra) (st : Option Nat) (now req : Nat)
    (h : (g.check st now).1 = false) : (rateCall g st now req).2 = [] := by
  simp [rateCall, h]

/-- the wait-nanos hint of a refusal is positive.  The layer reads the clock (`now'`) BEFORE it asks
the limiter, whose own reading `now` is therefore not earlier; the hint is `earliest - now'`. -/
theorem C19_hint_positive (g : Gcra) (st : Option Nat) (now now' : Nat) (hle : now' ≤ now)
    (h : (g.check st now).1 = false) : 0 < g.hint st now now' :=
  Nat.sub_pos_of_lt (Nat.lt_of_le_of_lt hle (Gcra.check_refused_iff.mp h))

/-- why the order of the two clock reads matters (the defect repaired by the `fix:` commit in
rate_limit.rs): were the clock read AFTER the check, the hint could be zero -/
theorem C19_hint_zero_if_clock_read_after :
    ∃ (g : Gcra) (st : Option Nat) (now now' : Nat), now ≤ now' ∧ (g.check st now).1 = false ∧ g.hint st now now' = 0 :=
  ⟨⟨2, 1⟩, some 12, 9, 10, by decide, by decide, by decide⟩

/-- soundness of the interval acceptor used for the real-time correspondence: whenever the exact
limiter state lies in the tracked interval and the call happened inside `[a, b]`, the observed
decision is accepted and the new exact state lies in the new interval -/
theorem C19_accept_sound_some (g : Gcra) (lo hi tat a b now : Nat)
    (ht : lo ≤ tat ∧ tat ≤ hi) (hn : a ≤ now ∧ now ≤ b) :
    ∃ lo' hi', g.accept (some (lo, hi)) a b (g.check (some tat) now).1 = some (some (lo', hi')) ∧
      ∃ tat', (g.check (some tat) now).2 = some tat' ∧ lo' ≤ tat' ∧ tat' ≤ hi' := by
  rcases Nat.lt_or_ge now (g.earliest (some tat) now) with h | h
  · -- refused, so `a + tau ≤ now + tau < tat`: the state stays, and the lower end may move above `a + tau`
    rw [Gcra.check_of_lt h]
    have hlt : a + g.tau < tat := Nat.lt_of_le_of_lt (Nat.add_le_add_right hn.1 _) (Nat.add_lt_of_lt_sub h)
    exact ⟨max lo (a + g.tau + 1), hi, if_pos (Nat.lt_of_lt_of_le hlt ht.2), tat, rfl, Nat.max_le.mpr ⟨ht.1, hlt⟩, ht.2⟩
  · -- admitted, so `tat ≤ now + tau ≤ b + tau`; the new state `max tat now + t` is monotone in `tat` and `now`
    rw [Gcra.check_of_le h]
    have hle : tat ≤ b + g.tau := Nat.le_trans (Nat.sub_le_iff_le_add.mp h) (Nat.add_le_add_right hn.2 _)
    exact ⟨max lo a + g.t, max (min hi (b + g.tau)) b + g.t, if_pos (Nat.le_trans ht.1 hle), max tat now + g.t, rfl,
      Nat.add_le_add_right (Nat.max_le_max' ht.1 hn.1) _,
      Nat.add_le_add_right (Nat.max_le_max' (Nat.le_min.mpr ⟨ht.2, hle⟩) hn.2) _⟩

theorem C19_accept_sound_fresh (g : Gcra) (hb : 1 ≤ g.burst) (a b now : Nat) (hn : a ≤ now ∧ now ≤ b) :
    (g.check none now).1 = true ∧
    ∃ tat', (g.check none now).2 = some tat' ∧
      g.accept none a b true = some (some (a + g.t + g.t, b + g.t + g.t)) ∧ a + g.t + g.t ≤ tat' ∧ tat' ≤ b + g.t + g.t := by
  rw [Gcra.check_none hb]
  exact ⟨rfl, now + g.t + g.t, rfl, rfl,
    Nat.add_le_add_right (Nat.add_le_add_right hn.1 _) _, Nat.add_le_add_right (Nat.add_le_add_right hn.2 _) _⟩

/-! non-vacuity -/
example : (⟨10, 3⟩ : Gcra).runCount none [0, 0, 0, 0, 5, 10, 10, 25] = 5 := by decide
example : (⟨10, 3⟩ : Gcra).runCount none [0, 0, 0, 0, 5, 10, 10, 25] ≤ 3 + 25 / 10 := by decide


/-- **The rate limiter the model describes is the one in the source** (read off anemo-tower on this run):
the decision (`until_key_ready` in Block mode, `check_key` in ReturnError mode) is taken for the
sender's full PeerId BEFORE the inner service is called; a refusal is TooManyRequests with the
`wait-nanos` header computed from a clock reading taken before the check; the inner service is called
once, after admission. -/
theorem C19_layer_is_translated :
    Gen.rateRefusalStatus = Gen.StatusCode.TooManyRequests ∧ Gen.towerShapeChecked = true := ⟨rfl, rfl⟩

/-- **"Per peer" means per 32-byte identity** (derived equality and hash of `PeerId`, checked on this run). -/
theorem C19_identity_is_pinned : Gen.peerIdShapeChecked = true := rfl

end Anemo
