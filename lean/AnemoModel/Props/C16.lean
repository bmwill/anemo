/-
C16 — Routing delivers each request to exactly the matching service.
Class proved: route tables made of exact paths and catch-all tails (what `route`, `add_rpc_service`,
`merge` and `route_layer` build from such patterns); route strings are arbitrary byte strings.
`Pattern.overlaps` is exactly "some path is matched by both" (`C16_overlap_exact`), so the tables the
model accepts are exactly the unambiguous ones; that matchit accepts/rejects the same insertions is
established by the differential run.  Dispatch is a total function: it cannot panic.
-/
import AnemoModel.Lemmas.Routing
import AnemoModel.Props.C07
namespace Anemo

/-- the overlap test is exact: it holds iff some route string is matched by both patterns -/
theorem C16_overlap_exact (p q : Pattern) :
    p.overlaps q = true ↔ ∃ path, p.matches path = true ∧ q.matches path = true := by
  cases p with
  | exact a =>
    -- an exact pattern matches its own path only, and `overlaps` asks whether `q` matches that
    simp only [Pattern.matches_exact, exists_eq_left']
    cases q with
    | exact b => exact beq_iff_eq.trans (eq_comm.trans beq_iff_eq.symm)
    | catchAll b => exact Iff.rfl
  | catchAll a =>
    cases q with
    | exact b =>
      simp only [Pattern.matches_exact, exists_eq_right']
      exact Iff.rfl
    | catchAll b =>
      -- two prefixes of one path are comparable
      simp only [Pattern.overlaps, Pattern.matches_catchAll, Bool.or_eq_true, List.isPrefixOf_iff_prefix]
      exact ⟨fun h => h.elim (fun h => ⟨b, h, List.prefix_refl b⟩) (fun h => ⟨a, List.prefix_refl a, h⟩),
        fun ⟨_, h1, h2⟩ => List.prefix_or_prefix_of_prefix h1 h2⟩

theorem not_both_match {p q : Pattern} (h : p.overlaps q = false) {path : Bytes}
    (hp : p.matches path = true) (hq : q.matches path = true) : False :=
  Bool.eq_false_iff.mp h ((C16_overlap_exact p q).mpr ⟨path, hp, hq⟩)

/-- in a valid table an entry that matches a route string is the only one that does -/
theorem filter_matches_eq {t : Table} (hv : t.Valid) {e : Entry} {path : Bytes}
    (he : e ∈ t) (hm : e.pat.matches path = true) : t.filter (fun x => x.pat.matches path) = [e] := by
  induction t with
  | nil => cases he
  | cons x rest ih =>
    have ⟨hhead, htail⟩ := List.pairwise_cons.mp hv
    rcases List.mem_cons.mp he with rfl | hin
    · rw [List.filter_cons, if_pos hm,
        List.filter_eq_nil_iff.mpr fun y hy hym => not_both_match (hhead y hy) hm hym]
    · rw [List.filter_cons, if_neg fun hxm => not_both_match (hhead e hin) hxm hm, ih htail hin]

/-- exactly one service handles a request: in a valid table at most one entry matches any route string -/
theorem C16_unique_match (t : Table) (hv : t.Valid) (path : Bytes) :
    (t.filter (fun e => e.pat.matches path)).length ≤ 1 := by
  cases hf : t.filter (fun e => e.pat.matches path) with
  | nil => exact Nat.zero_le 1
  | cons e l =>
    have he : e ∈ t.filter (fun e => e.pat.matches path) := hf ▸ List.mem_cons_self
    obtain ⟨he, hm⟩ := List.mem_filter.mp he
    rw [← hf, filter_matches_eq hv he hm]
    exact Nat.le_refl 1

/-- the request goes to the entry registered for the matching pattern (exact path, wildcard tail
or RPC prefix alike), with that entry's service and layers -/
theorem C16_dispatch_exact (t : Table) (hv : t.Valid) (e : Entry) (path : Bytes)
    (he : e ∈ t) (hm : e.pat.matches path = true) : t.dispatch path = some e := by
  rw [Table.dispatch, ← List.head?_filter, filter_matches_eq hv he hm]
  rfl

/-- any unmatched route string gets NotFound -/
theorem C16_unmatched_not_found (t : Table) (path : Bytes)
    (h : ∀ e ∈ t, e.pat.matches path = false) : t.dispatch path = none :=
  List.find?_eq_none.mpr fun e he => Bool.eq_false_iff.mp (h e he)

/-- what dispatch returns is an entry of the table that matches -/
theorem C16_dispatch_sound (t : Table) (path : Bytes) (e : Entry) (h : t.dispatch path = some e) :
    e ∈ t ∧ e.pat.matches path = true := by
  unfold Table.dispatch at h
  have hm := List.find?_some h
  exact ⟨List.mem_of_find?_eq_some h, hm⟩

/-! ### every registered pattern starts with '/', so empty and slash-less route strings are never served -/
def Pattern.text : Pattern → Bytes
  | .exact p => p
  | .catchAll pre => pre

def Table.Slashed (t : Table) : Prop := ∀ e ∈ t, e.pat.text.head? = some slash

theorem parsePattern_slashed (path : Bytes) (p : Pattern) (h : parsePattern path = some p) :
    p.text.head? = some slash := by
  cases path with
  | nil => cases h
  | cons c rest =>
    by_cases hc : c = slash
    · subst hc
      rw [parsePattern, if_neg (by decide)] at h
      split at h
      · split at h
        · cases h
        · cases h
          rfl
      · split at h
        · cases h
          rename_i pre name hs _
          -- `pre` is what stands before the first '*' of "/...", and '/' is not '*'
          have hpath := splitStar_eq_some hs
          cases pre with
          | nil => exact absurd (List.cons.inj hpath).1 (by decide)
          | cons x xs => exact congrArg some (List.cons.inj hpath).1.symm
        · cases h
    · rw [parsePattern, if_pos (bne_iff_ne.mpr hc)] at h
      cases h

theorem Pattern.text_prefix_of_matches {p : Pattern} {path : Bytes} (h : p.matches path = true) :
    p.text <+: path := by
  cases p with
  | exact a => exact (Pattern.matches_exact a path).mp h ▸ List.prefix_refl a
  | catchAll pre => exact (Pattern.matches_catchAll pre path).mp h

theorem slashed_no_match (p : Pattern) (hp : p.text.head? = some slash) (path : Bytes)
    (hpath : path.head? ≠ some slash) : p.matches path = false := by
  refine Bool.eq_false_iff.mpr fun hm => hpath ?_
  obtain ⟨t, rfl⟩ := Pattern.text_prefix_of_matches hm
  rw [List.head?_append, hp]
  rfl

/-- the empty route string, and any route string that does not start with '/', is answered NotFound -/
theorem C16_odd_routes_not_found (t : Table) (hs : t.Slashed) (path : Bytes)
    (hpath : path.head? ≠ some slash) : t.dispatch path = none :=
  C16_unmatched_not_found t path (fun e he => slashed_no_match e.pat (hs e he) path hpath)

/-! ### building tables -/
theorem insert_ok {t t' : Table} {e : Entry} (h : t.insert e = some t') :
    t' = t ++ [e] ∧ ∀ x ∈ t, x.pat.overlaps e.pat = false := by
  unfold Table.insert at h
  split at h
  · cases h
  · cases h
    exact ⟨rfl, fun x hx => Bool.eq_false_iff.mpr fun ho => ‹¬_› (List.any_eq_true.mpr ⟨x, hx, ho⟩)⟩

theorem insert_valid {t t' : Table} {e : Entry} (hv : t.Valid) (h : t.insert e = some t') : t'.Valid := by
  obtain ⟨rfl, hno⟩ := insert_ok h
  exact List.pairwise_append.mpr
    ⟨hv, List.pairwise_singleton _ _, fun a ha b hb => List.mem_singleton.mp hb ▸ hno a ha⟩

/-- `route`: on success the new route is appended with no layers and the table stays unambiguous;
it is refused (the real `Router::route` panics) exactly when the pattern is malformed or ambiguous
with an existing route -/
theorem C16_route (t t' : Table) (path : Bytes) (svc : Nat) (hv : t.Valid) (hs : t.Slashed)
    (h : t.route path svc = some t') :
    ∃ p, parsePattern path = some p ∧ t' = t ++ [{ pat := p, svc := svc, layers := [] }] ∧ t'.Valid ∧ t'.Slashed := by
  unfold Table.route at h
  split at h
  · cases h
  · rename_i p hp
    refine ⟨p, hp, (insert_ok h).1, insert_valid hv h, ?_⟩
    rw [(insert_ok h).1]
    intro e he
    rcases List.mem_append.mp he with he | he
    · exact hs e he
    · rw [List.mem_singleton.mp he]
      exact parsePattern_slashed path p hp

/-- merging preserves every route of both routers with its service and its route-level layers, and
the result is unambiguous -/
theorem C16_merge_preserves (a b t : Table) (hv : a.Valid) (h : a.merge b = some t) :
    t = a ++ b ∧ t.Valid := by
  induction b generalizing a with
  | nil =>
    cases h
    exact ⟨(List.append_nil _).symm, hv⟩
  | cons e rest ih =>
    rw [Table.merge] at h
    split at h
    · cases h
    · rename_i a' hi
      obtain ⟨h1, h2⟩ := ih a' (insert_valid hv hi) h
      rw [(insert_ok hi).1, List.append_assoc] at h1
      exact ⟨h1, h2⟩

theorem C16_merge_dispatch (a b t : Table) (hv : a.Valid) (h : a.merge b = some t) (e : Entry) (path : Bytes)
    (he : e ∈ a ∨ e ∈ b) (hm : e.pat.matches path = true) : t.dispatch path = some e := by
  have ⟨h1, h2⟩ := C16_merge_preserves a b t hv h
  exact C16_dispatch_exact t h2 e path (h1 ▸ List.mem_append.mpr he) hm

/-- a route layer applies to exactly the routes registered before it: they get the layer outermost,
keep their pattern and service; a route added afterwards carries no layer -/
theorem C16_layer_scope (t t' : Table) (l : Nat) (path : Bytes) (svc : Nat)
    (h : (t.routeLayer l).route path svc = some t') :
    ∃ p, t' = t.map (fun e => { e with layers := l :: e.layers }) ++ [{ pat := p, svc := svc, layers := [] }] := by
  unfold Table.route at h
  split at h
  · cases h
  · exact ⟨_, (insert_ok h).1⟩

theorem C16_layer_keeps_validity (t : Table) (l : Nat) (hv : t.Valid) : (t.routeLayer l).Valid :=
  List.Pairwise.map _ (fun _ _ h => h) hv

theorem C16_layer_dispatch (t : Table) (l : Nat) (path : Bytes) :
    (t.routeLayer l).dispatch path = (t.dispatch path).map (fun e => { e with layers := l :: e.layers }) :=
  List.find?_map

/-- an RPC service registered under `name` serves exactly the route strings under `/<name>/` -/
theorem C16_rpc_prefix (name path : Bytes) :
    (Pattern.catchAll ([slash] ++ name ++ [slash])).matches path = true ↔ ([slash] ++ name ++ [slash]) <+: path :=
  Pattern.matches_catchAll _ path

/-! non-vacuity -/
example : ((Table.route [] [0x2f, 0x61] 1).bind (fun t => t.addRpcService [0x47] 2)).bind
    (fun t => (t.routeLayer 9).route [0x2f, 0x62] 3) =
    some [⟨.exact [0x2f, 0x61], 1, [9]⟩, ⟨.catchAll [0x2f, 0x47, 0x2f], 2, [9]⟩, ⟨.exact [0x2f, 0x62], 3, []⟩] := by decide
example : (Table.route [] [0x2f, 0x61, 0x2f, 0x2a, 0x72] 1).bind (fun t => t.route [0x2f, 0x61, 0x2f, 0x62] 2) = none := by decide



/-- **The route the router dispatches on is the route the caller sent**: a request that crosses the wire
(real encoder, any limit up to the 4-byte length field, any trailing bytes behind it on the stream) is
decoded with exactly its route -- empty, slash-less, overlong or odd as it may be -- so the table
lookup on the serving side is the lookup on the caller's route string. -/
theorem C16_route_as_sent (t : Table) (max : Nat) (r : Req) (bytes rest : Bytes)
    (hmax : max ≤ lenFieldMax) (hwf : ReqWF r) (henc : encodeRequest max r = .ok bytes) :
    ∃ d, decodeRequest max (bytes ++ rest) = .ok (d, rest) ∧ d.route = r.route ∧ t.dispatch d.route = t.dispatch r.route := by
  refine ⟨_, C07_roundtrip_request max r bytes rest hmax hwf henc, rfl, rfl⟩

/-- in particular the empty route stays empty and is answered NotFound by every table of slash-led patterns -/
theorem C16_empty_route_over_the_wire (t : Table) (hs : t.Slashed) (max : Nat) (r : Req) (bytes rest : Bytes)
    (hmax : max ≤ lenFieldMax) (hwf : ReqWF r) (henc : encodeRequest max r = .ok bytes) (he : r.route = []) :
    ∃ d, decodeRequest max (bytes ++ rest) = .ok (d, rest) ∧ t.dispatch d.route = none := by
  obtain ⟨d, hd, hr, _⟩ := C16_route_as_sent t max r bytes rest hmax hwf henc
  refine ⟨d, hd, ?_⟩
  rw [hr, he]
  exact C16_odd_routes_not_found t hs [] nofun

theorem callWith_true (s : SvcTree) : callWith true true s = [] := by
  induction s with
  | leaf _ => rfl
  | layer tag inner ih => exact ih
  | route inner ih => exact ih

/-- **No layer is ever called without having been polled ready**, however many route layers and `Route`
boxes are stacked (by `route_layer` after `route_layer`, or by `merge`): readiness-sensitive middleware
(concurrency limits, buffers, rate limits) installed as route layers is driven by the tower contract. -/
theorem C16_no_call_without_poll_ready (s : SvcTree) : oneshotTree Gen.routeCallPollsInner s = [] :=
  callWith_true s

/-- what the pinned shape of `Route::call` prevents: calling the boxed service directly -/
example : oneshotTree false (.route (.layer 7 (.route (.layer 8 (.leaf 1))))) = [7, 8] := by decide

/-- **The router the model describes is the one in the source** (shapes recognised on this run): `route`
rejects paths without a leading slash and Routers as services, inserts the pattern into the matcher under a
fresh id and stores the service under that id; `merge` re-registers every route of the other router by
looking its path up UNDER ITS OWN ID; `route_layer` wraps exactly the routes present and leaves matcher
and fallback as they are; `call` looks the route string up and calls the matched route, or the fallback
(NotFound) on any non-match; `add_rpc_service` registers the translated pattern (`rpcRoutePatternGen`). -/
theorem C16_router_is_translated : Gen.routerShapeChecked = true := rfl

end Anemo
