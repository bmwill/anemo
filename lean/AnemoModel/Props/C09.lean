/-
C09 - Connection views are eventually mutual; disconnects propagate.
Theorems over `Views.Link` (the idle-timer logic of one connection seen from both ends, with every
packet's fate explicit in the event) and over the active-peer set model of `Peers`.
-/
import AnemoModel.Lemmas.Views
import AnemoModel.Lemmas.Node
namespace Anemo.Views

theorem inv_run (T : Nat) (hT : 0 < T) (evs : List Ev) (l : Link) (h : l.Inv T) : (l.run T evs).Inv T :=
  Link.run_invariant (ok := fun _ => True) (fun l e _ => inv_step T hT l e) evs (fun _ _ => trivial) l h

/-! ### a dead end is noticed by the other end -/

/-- `x` is dead and the survivor's timer, if it is not restarted, fires by `t0 + T` -/
def TrailP (T t0 : Nat) (x : Who) (l : Link) : Prop :=
  (l.side x).alive = false ∧
  ((l.side x.other).alive = true → l.now < (l.side x.other).deadline ∧ (l.side x.other).deadline ≤ t0 + T)

theorem trailP_step (T t0 : Nat) (x : Who) (l : Link) (ev : Ev) (h : TrailP T t0 x l)
    (hns : ev.isSendBy x.other = false) : TrailP T t0 x (l.step T ev) := by
  refine ⟨dead_step ev h.1, fun ha => ?_⟩
  have hy := h.2 (alive_of_step ha)
  cases side_step T l ev x.other with
  | dead hd => rw [hd] at ha; cases ha
  | kept hs hn => rw [hs]; omega
  | armed _ _ _ hev => rw [hev] at hns; cases hns
  | refreshed _ ho => rw [Who.other_other, h.1] at ho; cases ho

theorem trailP_run (T t0 : Nat) (x : Who) (evs : List Ev) (l : Link) (h : TrailP T t0 x l)
    (hns : ∀ e ∈ evs, e.isSendBy x.other = false) : TrailP T t0 x (l.run T evs) :=
  Link.run_invariant (fun l e he h => trailP_step T t0 x l e h he) evs hns l h

/-- passive survivor (it sends nothing ack-eliciting): noticed **within one idle timeout** -/
theorem C09_dead_propagates_passive (T : Nat) (x : Who) (l : Link) (evs : List Ev)
    (hinv : l.Inv T) (hx : (l.side x).alive = false)
    (hns : ∀ e ∈ evs, e.isSendBy x.other = false)
    (hlong : l.now + T ≤ (l.run T evs).now) :
    ((l.run T evs).side x.other).alive = false := by
  have h := trailP_run T l.now x evs l ⟨hx, hinv.side x.other⟩ hns
  cases hy : ((l.run T evs).side x.other).alive with
  | false => rfl
  | true => have := h.2 hy; omega

/-- `x` is dead since (at most) `t0`; the survivor's timer can have been restarted at most once more -/
def Trail (T t0 : Nat) (x : Who) (l : Link) : Prop :=
  (l.side x).alive = false ∧
  ((l.side x.other).alive = true →
     l.now < (l.side x.other).deadline ∧ (l.side x.other).deadline ≤ t0 + 2 * T ∧
     ((l.side x.other).sentSinceRecv = false → (l.side x.other).deadline ≤ t0 + T))

theorem TrailP.trail {T t0 : Nat} {x : Who} {l : Link} (h : TrailP T t0 x l) : Trail T t0 x l :=
  ⟨h.1, fun ha => ⟨(h.2 ha).1, Nat.le_trans (h.2 ha).2 (by omega), fun _ => (h.2 ha).2⟩⟩

theorem trail_step (T t0 : Nat) (hT : 0 < T) (x : Who) (l : Link) (ev : Ev) (h : Trail T t0 x l) :
    Trail T t0 x (l.step T ev) := by
  refine ⟨dead_step ev h.1, fun ha => ?_⟩
  have hy := h.2 (alive_of_step ha)
  cases side_step T l ev x.other with
  | dead hd => rw [hd] at ha; cases ha
  | kept hs hn => rw [hs]; exact ⟨by omega, hy.2⟩
  -- the one restart: the survivor had not sent since it last heard from `x`, so it was due by `t0 + T`
  | armed _ hn hf _ hs =>
    rw [hs, hn]
    have := hy.2.2 hf
    exact ⟨Nat.lt_add_of_pos_right hT, show l.now + T ≤ _ by omega, nofun⟩
  | refreshed _ ho => rw [Who.other_other, h.1] at ho; cases ho

theorem trail_run (T t0 : Nat) (hT : 0 < T) (x : Who) (evs : List Ev) (l : Link) (h : Trail T t0 x l) :
    Trail T t0 x (l.run T evs) :=
  Link.run_invariant (ok := fun _ => True) (fun l e _ => trail_step T t0 hT x l e) evs (fun _ _ => trivial) l h

theorem Trail.expired {T t0 : Nat} {x : Who} {l : Link} (h : Trail T t0 x l) (hlong : t0 + 2 * T ≤ l.now) :
    (l.side x.other).alive = false := by
  cases hy : (l.side x.other).alive with
  | false => rfl
  | true => have := h.2 hy; omega

/-- **Any connection that one end closed, rejected or lost is lost at the other end** after at most
two idle timeouts, for every schedule of packets, losses, closes and ticks (the survivor's own
sending can restart its idle timer once - RFC 9000 §10.1). -/
theorem C09_dead_propagates (T : Nat) (hT : 0 < T) (x : Who) (l : Link) (evs : List Ev)
    (hinv : l.Inv T) (hx : (l.side x).alive = false)
    (hlong : l.now + 2 * T ≤ (l.run T evs).now) :
    ((l.run T evs).side x.other).alive = false :=
  (trail_run T l.now hT x evs l (TrailP.trail ⟨hx, hinv.side x.other⟩)).expired hlong

/-- a delivered close (explicit disconnect, rejection, tie-break loss on a working path) is seen by
the other end at once; the closing end is gone at once whatever the path does -/
theorem C09_close_immediate (T : Nat) (l : Link) (w : Who) (d : Bool) :
    ((l.step T (.close w d)).side w).alive = false ∧
    (d = true → ((l.step T (.close w d)).side w.other).alive = false) := by
  simp +contextual [step_close_side, Side.kill]

/-! ### mutual views after a fault-free period -/

/-- the invariant of a fault-free window that started at `t0`: while both ends live their timers agree (after an
exchange) or are the ones the window started with; or one end is dead and the other on its trail -/
def Win (T t0 : Nat) (l : Link) : Prop :=
  l.Inv T ∧
  ((l.a.alive = true ∧ l.b.alive = true ∧
      (l.a.deadline = l.b.deadline ∨ (l.a.deadline ≤ t0 + T ∧ l.b.deadline ≤ t0 + T))) ∨
   Trail T t0 .a l ∨ Trail T t0 .b l)

theorem win_step (T t0 : Nat) (hT : 0 < T) (l : Link) (ev : Ev) (h : Win T t0 l) (hff : ev.faultFree = true) :
    Win T t0 (l.step T ev) := by
  refine ⟨inv_step T hT l ev h.1, ?_⟩
  rcases h.2 with ⟨ha, hb, hs⟩ | ht | ht
  · cases ev with
    | tick =>
      -- timers that agree fire together; one that fires alone was not restarted in the window, so both were due by `t0 + T`
      simp only [Link.step, Side.expire_eq]
      by_cases ea : l.a.deadline ≤ l.now + 1 <;> by_cases eb : l.b.deadline ≤ l.now + 1 <;>
        simp only [ea, eb, if_true, if_false]
      · exact .inr (.inl ⟨rfl, nofun⟩)
      · exact .inr (.inl (TrailP.trail ⟨rfl, fun _ => ⟨Nat.lt_of_not_le eb, (hs.resolve_left (by omega)).2⟩⟩))
      · exact .inr (.inr (TrailP.trail ⟨rfl, fun _ => ⟨Nat.lt_of_not_le ea, (hs.resolve_left (by omega)).1⟩⟩))
      · exact .inl ⟨ha, hb, hs⟩
    | send w d k =>
      obtain ⟨rfl, rfl⟩ : d = true ∧ k = true := by simpa [Ev.faultFree] using hff
      rw [step_send_acked T l w ha hb]
      exact .inl ⟨ha, hb, .inl rfl⟩
    | close w d =>
      obtain rfl : d = true := hff
      refine .inr (.inl ⟨?_, fun hy => ?_⟩)
      · rw [step_close_side]; simp [Side.kill]
      · rw [step_close_side] at hy; simp [Side.kill] at hy
  · exact .inr (.inl (trail_step T t0 hT .a l ev ht))
  · exact .inr (.inr (trail_step T t0 hT .b l ev ht))

theorem win_run (T t0 : Nat) (hT : 0 < T) (evs : List Ev) (l : Link) (h : Win T t0 l)
    (hff : ∀ e ∈ evs, e.faultFree = true) : Win T t0 (l.run T evs) :=
  Link.run_invariant (fun l e he h => win_step T t0 hT l e h he) evs hff l h

theorem win_init (T : Nat) (l : Link) (h : l.Inv T) : Win T l.now l := by
  refine ⟨h, ?_⟩
  cases ha : l.a.alive with
  | false => exact .inr (.inl (TrailP.trail ⟨ha, h.side _⟩))
  | true =>
    cases hb : l.b.alive with
    | false => exact .inr (.inr (TrailP.trail ⟨hb, h.side _⟩))
    | true => exact .inl ⟨rfl, rfl, .inr ⟨(h.1 ha).2, (h.2 hb).2⟩⟩

/-- **Whenever connectivity stays fault-free for two idle timeouts, both ends agree** on whether
the connection exists - from *every* state the two ends can be in (half-open after a partition,
one end closed while the close was lost, ...), whatever traffic flows during the period. -/
theorem C09_mutual (T : Nat) (hT : 0 < T) (l : Link) (evs : List Ev) (hinv : l.Inv T)
    (hff : ∀ e ∈ evs, e.faultFree = true) (hlong : l.now + 2 * T ≤ (l.run T evs).now) :
    (l.run T evs).a.alive = (l.run T evs).b.alive := by
  rcases (win_run T l.now hT evs l (win_init T l hinv) hff).2 with hboth | h | h
  · rw [hboth.1, hboth.2.1]
  · exact h.1.trans (h.expired hlong).symm
  · exact (h.expired hlong).trans h.1.symm

/-- and then **every listed peer can be reached by RPC**: if an end is alive after such a period, an
RPC over the (fault-free) path completes -/
theorem C09_listed_reachable (T : Nat) (hT : 0 < T) (l : Link) (evs : List Ev) (hinv : l.Inv T)
    (hff : ∀ e ∈ evs, e.faultFree = true) (hlong : l.now + 2 * T ≤ (l.run T evs).now) (w : Who)
    (hl : ((l.run T evs).side w).alive = true) : (l.run T evs).rpcOk w true = true := by
  have hm := C09_mutual T hT l evs hinv hff hlong
  cases w <;> simp_all [Link.rpcOk, Link.side, Who.other]

/-! ### a healthy connection with traffic (keep-alive or requests) at least once per idle timeout stays up:
the mutual state reached is not always "both gone" -/

/-- ticks that stay short of both deadlines only move the clock -/
theorem run_ticks (T n : Nat) (l : Link) (ha : l.now + n < l.a.deadline) (hb : l.now + n < l.b.deadline) :
    l.run T (List.replicate n .tick) = { l with now := l.now + n } := by
  induction n generalizing l with
  | zero => rfl
  | succ n ih =>
    have hs : l.step T .tick = { l with now := l.now + 1 } := by
      rw [Link.step, Side.expire_eq, Side.expire_eq, if_neg (by omega), if_neg (by omega)]
    rw [List.replicate_succ, Link.run_cons, hs, ih _ (by simp; omega) (by simp; omega)]
    simp only [Nat.add_assoc, Nat.add_comm 1]

theorem C09_keepalive_stays (T : Nat) (w : Who) (ns : List Nat) (hns : ∀ n ∈ ns, n < T) (l : Link)
    (ha : l.a.alive = true) (hb : l.b.alive = true) :
    (l.run T (rounds w ns)).a.alive = true ∧ (l.run T (rounds w ns)).b.alive = true := by
  induction ns generalizing l with
  | nil => exact ⟨ha, hb⟩
  | cons n t ih =>
    have hn := hns n (by simp)
    -- the exchange sets both deadlines to `now + T`; `n < T` ticks later both ends are as they were
    rw [rounds, Link.run_cons, Link.run_append, step_send_acked T l w ha hb,
      run_ticks T n _ (by simp; omega) (by simp; omega)]
    exact ih (fun m hm => hns m (by simp [hm])) _ ha hb

/-! ### the abstract network view is symmetric by construction -/

theorem norm_comm (i j : Nat) : norm i j = norm j i := by
  unfold norm
  rcases Nat.lt_trichotomy i j with h | rfl | h
  · rw [if_pos (Nat.le_of_lt h), if_neg (Nat.not_le_of_lt h)]
  · rfl
  · rw [if_neg (Nat.not_le_of_lt h), if_pos (Nat.le_of_lt h)]

theorem C09_views_symmetric (s : Net) (i j : Nat) (hi : i < s.n) (hj : j < s.n) :
    j ∈ s.lists i ↔ i ∈ s.lists j := by
  simp [Net.lists, Net.connected, hi, hj, norm_comm i j]
  intro _
  constructor <;> intro h e <;> exact h e.symm

end Anemo.Views

namespace Anemo

/-! ### explicit disconnect on the active-peer set -/

theorem not_mem_peers_erase (l : List (PeerId × Conn)) (p : Nat) : p ∉ (eraseConn l p).map (·.1) :=
  (lookupConn_none_iff _ p).mp (lookupConn_erase_self l p)

/-- **An explicit disconnect removes the peer locally at once, with exactly one LostPeer(Requested),
closes the connection, and RPCs to the peer (which need its entry) fail until a new connection is added.** -/
theorem C09_disconnect_local (s : Active) (p : Nat) (c : Conn) (h : lookupConn s.conns p = some c) :
    let s' := s.remove p .requested
    p ∉ s'.peers ∧ lookupConn s'.conns p = none ∧
    s'.log = s.log ++ [.lostPeer p .requested] ∧ c.id ∈ s'.closed := by
  simp only [Active.remove, h, Active.peers]
  exact ⟨not_mem_peers_erase _ p, lookupConn_erase_self _ p, trivial, by simp⟩

/-- disconnecting a peer that is not connected changes nothing (the API reports an error) -/
theorem C09_disconnect_absent (s : Active) (p : Nat) (h : lookupConn s.conns p = none) :
    s.remove p .requested = s :=
  remove_none s p .requested h

/-- the entry stays absent (RPCs keep failing) under everything except a new connection for that peer -/
theorem C09_absent_until_add (own : Nat) (s : Active) (op : Op) (p : Nat) (h : lookupConn s.conns p = none)
    (hop : ∀ c, op = .add c → c.peer ≠ p) : lookupConn (s.step own op).conns p = none := by
  by_cases hp : op.peer = p
  · -- an operation about `p` other than an `add` finds no entry and leaves none (`Op.effect`)
    subst hp
    rw [(step_effect own s op).1, h]
    cases op with
    | add c => exact absurd rfl (hop c rfl)
    | remove q r => rfl
    | removeStable q id r => rfl
  · rw [step_lookup_ne own s op p hp]; exact h

/-- **An entry of the connected set exists only while the handler task of exactly that connection is
running, and a running handler without an entry serves a connection this node has already closed**
(so it exits) - for every history of established connections (inbound or outbound, replacing or
losing the tie-break), handler exits and explicit disconnects. -/
theorem C09_entry_iff_handler (own : Nat) (ops : List NodeOp) (hok : Node.runOk own {} ops) :
    let n := ({} : Node).run own ops
    (∀ p ∈ n.active.peers, ∃ c ∈ n.handlers, c.peer = p ∧ lookupConn n.active.conns p = some c) ∧
    (∀ c ∈ n.handlers, lookupConn n.active.conns c.peer = some c ∨ c.id ∈ n.active.closed) := by
  have h := Node.run_inv own ops {} Node.inv_init hok
  refine ⟨?_, ?_⟩
  · intro p hp
    simp only [Active.peers, List.mem_map] at hp
    obtain ⟨e, he, rfl⟩ := hp
    refine ⟨e.2, h.entryHasHandler e he, h.active.keyed e he, ?_⟩
    exact lookupConn_of_mem_nodup _ _ _ h.active.nodup he
  · intro c hc
    rcases (h.handlerAccounted c hc).2 with hcl | hin
    · exact Or.inr hcl
    · exact Or.inl (lookupConn_of_mem_nodup _ _ _ h.active.nodup hin)

/-- the hypothesis is satisfiable: a re-dial that replaces, then the stale handler's exit -/
example : Node.runOk 5 {} [.established ⟨1, 9, .outbound⟩, .established ⟨2, 9, .outbound⟩, .handlerExit 1 .locallyClosed, .disconnect 9] ∧
    (({} : Node).run 5 [.established ⟨1, 9, .outbound⟩, .established ⟨2, 9, .outbound⟩, .handlerExit 1 .locallyClosed]).active.peers = [9] := by
  refine ⟨?_, by decide⟩
  simp only [Node.runOk, NodeOp.freshFor, and_true]
  decide

/-- **every connection that is not registered is closed**: whatever `add` decides, the connection it
does not keep (the newcomer that lost the tie-break, or the replaced one) is closed by it -/
theorem C09_unregistered_closed (own : Nat) (s : Active) (c : Conn) :
    let r := s.add own c
    (r.2 = false → c.id ∈ r.1.closed) ∧
    (∀ old, lookupConn s.conns c.peer = some old → r.2 = true → old.id ∈ r.1.closed) := by
  intro r
  cases hl : lookupConn s.conns c.peer with
  | none =>
    have hr : r = _ := add_none own s c hl
    rw [hr]
    exact ⟨nofun, fun _ h => nomatch h⟩
  | some old =>
    cases ht : tieBreak own c.peer old.origin c.origin with
    | true =>
      have hr : r = _ := add_replace own s c old hl ht
      rw [hr]
      refine ⟨nofun, fun o ho _ => ?_⟩
      cases ho
      exact List.mem_concat_self
    | false =>
      have hr : r = _ := add_drop own s c old hl ht
      rw [hr]
      exact ⟨fun _ => List.mem_concat_self, fun _ _ h => nomatch h⟩

end Anemo

namespace Anemo.Views
/-! ### the hypotheses are satisfiable (non-vacuity), and the bounds are tight -/

/-- half-open after a partition: `a` closed while the close was lost; `b` is still listed -/
def halfOpen : Link := (Link.fresh 0 4).run 4 [.tick, .close .a false]

example : halfOpen.Inv 4 ∧ (halfOpen.side .a).alive = false ∧ (halfOpen.side .b).alive = true := by
  refine ⟨⟨?_, ?_⟩, by decide, by decide⟩ <;> simp only [Side.Ok] <;> decide

/-- a passive survivor notices exactly when its idle timer fires (not earlier): the bound `T` is tight -/
example : ((halfOpen.run 4 [.tick, .tick]).side .b).alive = true ∧
    ((halfOpen.run 4 [.tick, .tick, .tick]).side .b).alive = false := by decide

/-- a survivor that sends just before its timer fires stays listed for almost another idle timeout: the
bound `2T` of `C09_dead_propagates` cannot be improved to `T` -/
example : ((halfOpen.run 4 [.tick, .tick, .send .b false false, .tick, .tick, .tick]).side .b).alive = true ∧
    ((halfOpen.run 4 [.tick, .tick, .send .b false false, .tick, .tick, .tick, .tick]).side .b).alive = false := by decide

/-- with losses the views can stay different for as long as the faults last... -/
example : let l := (Link.fresh 0 4).run 4 [.tick, .close .a false, .tick]
    l.a.alive ≠ l.b.alive := by decide

/-- ...and a healthy connection with traffic survives (the agreement reached is not always "gone") -/
example : let l := (Link.fresh 0 4).run 4 (rounds .a [3, 3, 3, 3])
    l.a.alive = true ∧ l.b.alive = true ∧ l.now = 12 := by decide
end Anemo.Views

namespace Anemo
/-- **The idle timeout and keep-alive interval configured are the ones every connection runs with** (word for word the functions the model was written for, checked on this run): `QuicConfig::transport_config` applies both settings independently, the same transport configuration goes into the server configuration, the plain client configuration and every per-dial pinned client configuration; `disconnect` removes through the active set at once. -/
theorem C09_transport_is_pinned : Gen.tlsConfigShapeChecked = true ∧ Gen.netApiShapeChecked = true := ⟨rfl, rfl⟩
end Anemo
