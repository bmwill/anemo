/-
C07 — Wire format: exact layout, lossless round trip, total decoder.
Property theorems only (helper lemmas live in Lemmas/Wire.lean).  All statements are over the
generated tables (`Gen.ANEMO`, `Gen.Version`, `Gen.StatusCode`) and the hand-written codec model
that the correspondence check ties to crates/anemo/src/network/wire.rs byte for byte.

Well-formedness (`ReqWF` / `RespWF`) is exactly what the Rust types guarantee: `String` is valid
UTF-8.  Nothing is assumed about sizes beyond "the encoder accepted the message".
Totality of the decoders is by construction: they are total functions into `Except WireErr _`.
-/
import AnemoModel.Lemmas.Wire
namespace Anemo
open Gen

def ReqWF (r : Req) : Prop := StrWF r.route ∧ HeadersUtf8 r.headers
def RespWF (r : Resp) : Prop := HeadersUtf8 r.headers

/-! ### status and version tables (generated from the enum and from `new`) -/

theorem C07_status_table_fwd (s : StatusCode) : StatusCode.new s.toU16 = some s := by
  cases s <;> rfl

theorem C07_status_table_bwd (c : Nat) (s : StatusCode) (h : StatusCode.new c = some s) : s.toU16 = c := by
  unfold StatusCode.new at h
  split at h <;> cases h <;> rfl

theorem C07_version_table_fwd (v : Version) : Version.new v.toU16 = some v := by
  cases v <;> rfl

theorem C07_version_table_bwd (c : Nat) (v : Version) (h : Version.new c = some v) : v.toU16 = c := by
  unfold Version.new at h
  split at h <;> cases h <;> rfl

theorem C07_status_fits_u16 (s : StatusCode) : s.toU16 < 256^2 := by
  cases s <;> decide

/-! ### preamble: layout and exact acceptance -/

/-- interoperability pin: the 8 bytes every revision must put first -/
theorem C07_layout_preamble : preamble .V1 = [0x61, 0x6e, 0x65, 0x6d, 0x6f, 0x00, 0x01, 0x00] := by
  decide

theorem C07_preamble_roundtrip (v : Version) (rest : Bytes) :
    decodeVersionFrame (preamble v ++ rest) = .ok (v, rest) :=
  decodeVersionFrame_preamble v rest

/-- accepted exactly when the stream starts with `anemo`, two version bytes naming a known version
(big endian) and a zero byte; everything after those 8 bytes is left unread -/
theorem C07_preamble_exact (bs : Bytes) (v : Version) (rest : Bytes) :
    decodeVersionFrame bs = .ok (v, rest) ↔
      ∃ b5 b6 : UInt8, bs = ANEMO ++ [b5, b6, 0] ++ rest ∧
        Version.new (b5.toNat * 256 + b6.toNat) = some v := by
  constructor
  · intro h
    unfold decodeVersionFrame at h
    split at h
    · rename_i b0 b1 b2 b3 b4 b5 b6 b7 r
      split at h
      · cases h
      · rename_i hg
        simp only at h
        split at h
        · rename_i ver hv
          cases h
          -- the guard that was passed says the first five bytes are `anemo` and the eighth is zero
          simp only [Bool.or_eq_true, bne_iff_ne, ne_eq, not_or, Decidable.not_not] at hg
          exact ⟨b5, b6, by rw [← hg.1, hg.2]; rfl, hv⟩
        · cases h
    · cases h
  · rintro ⟨b5, b6, rfl, hv⟩
    simp [decodeVersionFrame, ANEMO, hv]

theorem C07_bad_preamble (p : Bytes) (b5 b6 b7 : UInt8) (rest : Bytes) (hl : p.length = 5)
    (h : p ≠ ANEMO ∨ b7 ≠ 0) :
    decodeVersionFrame (p ++ [b5, b6, b7] ++ rest) = .error .badPreamble := by
  match p, hl with
  | [a0, a1, a2, a3, a4], _ =>
    have hg : ([a0, a1, a2, a3, a4] != ANEMO || b7 != 0) = true := by
      rcases h with h | h <;> simp [h]
    exact if_pos hg

theorem C07_bad_version (rest : Bytes) (c : Nat) (hc : c < 256^2) (hv : Version.new c = none) :
    decodeVersionFrame (ANEMO ++ be16 c ++ [0] ++ rest) = .error (.badVersion c) := by
  have e1 : c / 256 % 256 = c / 256 := Nat.mod_eq_of_lt (by omega)
  have e2 : c / 256 * 256 + c % 256 = c := by omega
  simp [decodeVersionFrame, ANEMO, beN, UInt8.toNat_ofNat', e1, e2, hv]

/-! ### layout of whole messages -/

/-- a request is written as preamble ++ frame(header) ++ frame(body), exactly when both fit;
the header is `le64 |route| ++ route ++ le64 |headers| ++ (le64 |k| ++ k ++ le64 |v| ++ v)*` -/
theorem C07_layout_request (max : Nat) (r : Req) (bytes : Bytes) :
    encodeRequest max r = .ok bytes ↔
      (encReqHeader r).length ≤ max ∧ r.body.length ≤ max ∧
      bytes = preamble r.version ++ (be32 (encReqHeader r).length ++ encReqHeader r)
                ++ (be32 r.body.length ++ r.body) := by
  rw [encodeRequest_ok_iff, writeMsg_ok_iff]

theorem C07_layout_response (max : Nat) (r : Resp) (bytes : Bytes) :
    encodeResponse max r = .ok bytes ↔
      (encRespHeader r).length ≤ max ∧ r.body.length ≤ max ∧
      bytes = preamble r.version ++ (be32 (encRespHeader r).length ++ encRespHeader r)
                ++ (be32 r.body.length ++ r.body) := by
  rw [encodeResponse_ok_iff, writeMsg_ok_iff]

theorem C07_layout_req_header (r : Req) :
    encReqHeader r = le64 r.route.length ++ r.route ++ (le64 r.headers.length ++ encMap r.headers) := rfl

theorem C07_layout_resp_header (r : Resp) :
    encRespHeader r = le16 r.status.toU16 ++ (le64 r.headers.length ++ encMap r.headers) := rfl

/-- golden vector: route "/", header a=b, body "hi" (also pinned against the real encoder in corpus/C07) -/
theorem C07_golden_request :
    writeRequest (effMax none) { route := [0x2f], headers := [([0x61], [0x62])], body := [0x68, 0x69] }
      = ([0x61,0x6e,0x65,0x6d,0x6f,0x00,0x01,0x00, 0x00,0x00,0x00,0x23,
             0x01,0,0,0,0,0,0,0, 0x2f, 0x01,0,0,0,0,0,0,0,
             0x01,0,0,0,0,0,0,0, 0x61, 0x01,0,0,0,0,0,0,0, 0x62,
             0x00,0x00,0x00,0x02, 0x68,0x69], none) := by
  decide

/-! ### round trip -/

/-- Encoding then decoding reproduces route, headers (as the last-wins map of the entries, in
whatever order the encoder iterated them), body and version; extensions are dropped; the bytes
that follow the message are left unread. -/
theorem C07_roundtrip_request (max : Nat) (r : Req) (bytes rest : Bytes)
    (hmax : max ≤ lenFieldMax) (hwf : ReqWF r) (henc : encodeRequest max r = .ok bytes) :
    decodeRequest max (bytes ++ rest)
      = .ok ({ route := r.route, headers := normHeaders r.headers, body := r.body,
               version := r.version, ext := [] }, rest) := by
  obtain ⟨h1, h2, _⟩ := (C07_layout_request max r bytes).mp henc
  rw [decodeRequest_written max max r bytes rest hmax hmax hwf.1 hwf.2 henc,
    if_pos ⟨h1, h2⟩]

theorem C07_roundtrip_response (max : Nat) (r : Resp) (bytes rest : Bytes)
    (hmax : max ≤ lenFieldMax) (hwf : RespWF r) (henc : encodeResponse max r = .ok bytes) :
    decodeResponse max (bytes ++ rest)
      = .ok ({ status := r.status, headers := normHeaders r.headers, body := r.body,
               version := r.version, ext := [] }, rest) := by
  obtain ⟨h1, h2, _⟩ := (C07_layout_response max r bytes).mp henc
  rw [decodeResponse_written max max r bytes rest hmax hmax hwf (C07_status_table_fwd r.status)
      (C07_status_fits_u16 r.status) henc, if_pos ⟨h1, h2⟩]

/-- with distinct keys (what a `HashMap` holds) the header list comes back unchanged, for every
ordering of the entries -/
theorem C07_roundtrip_request_exact (max : Nat) (r : Req) (bytes rest : Bytes)
    (hmax : max ≤ lenFieldMax) (hwf : ReqWF r) (hnd : (r.headers.map (·.1)).Nodup)
    (henc : encodeRequest max r = .ok bytes) :
    decodeRequest max (bytes ++ rest) = .ok ({ r with ext := [] }, rest) := by
  rw [C07_roundtrip_request max r bytes rest hmax hwf henc, normHeaders_nodup _ hnd]

theorem C07_roundtrip_response_exact (max : Nat) (r : Resp) (bytes rest : Bytes)
    (hmax : max ≤ lenFieldMax) (hwf : RespWF r) (hnd : (r.headers.map (·.1)).Nodup)
    (henc : encodeResponse max r = .ok bytes) :
    decodeResponse max (bytes ++ rest) = .ok ({ r with ext := [] }, rest) := by
  rw [C07_roundtrip_response max r bytes rest hmax hwf henc, normHeaders_nodup _ hnd]

/-- the decoded map agrees with last-wins insertion of the encoded entries -/
theorem C07_headers_last_wins (acc : Headers) (k v k' : Bytes) :
    hLookup (hInsert acc k v) k' = if k = k' then some v else hLookup acc k' :=
  hLookup_hInsert acc k v k'

/-! ### extensions never travel -/
theorem C07_extensions_dont_travel_req (max : Nat) (r : Req) (e : List Nat) :
    writeRequest max { r with ext := e } = writeRequest max r := rfl

theorem C07_extensions_dont_travel_resp (max : Nat) (r : Resp) (e : List Nat) :
    writeResponse max { r with ext := e } = writeResponse max r := rfl

theorem C07_decoded_extensions_empty_req (max : Nat) (bs : Bytes) (r : Req) (rest : Bytes)
    (h : decodeRequest max bs = .ok (r, rest)) : r.ext = [] := by
  unfold decodeRequest at h
  split at h
  · cases h
  · cases h
    rfl

theorem C07_decoded_extensions_empty_resp (max : Nat) (bs : Bytes) (r : Resp) (rest : Bytes)
    (h : decodeResponse max bs = .ok (r, rest)) : r.ext = [] := by
  unfold decodeResponse at h
  split at h
  · cases h
  · cases h
    rfl

/-! ### rejection -/

/-- every strict prefix of a valid message is rejected with an error -/
theorem C07_prefix_rejected_request (max : Nat) (r : Req) (bytes : Bytes) (k : Nat)
    (hmax : max ≤ lenFieldMax) (henc : encodeRequest max r = .ok bytes) (hk : k < bytes.length) :
    ∃ e, decodeRequest max (bytes.take k) = .error e := by
  obtain ⟨e, he, _⟩ := decodeMsg_prefix parseReqHeader max r.version _ r.body bytes k hmax
    ((encodeRequest_ok_iff max r bytes).mp henc) hk
  exact ⟨e, by unfold decodeRequest; rw [he]⟩

theorem C07_prefix_rejected_response (max : Nat) (r : Resp) (bytes : Bytes) (k : Nat)
    (hmax : max ≤ lenFieldMax) (henc : encodeResponse max r = .ok bytes) (hk : k < bytes.length) :
    ∃ e, decodeResponse max (bytes.take k) = .error e := by
  obtain ⟨e, he, _⟩ := decodeMsg_prefix parseRespHeader max r.version _ r.body bytes k hmax
    ((encodeResponse_ok_iff max r bytes).mp henc) hk
  exact ⟨e, by unfold decodeResponse; rw [he]⟩

/-- an unknown status code in an otherwise well-formed header frame is rejected (before the body
is looked at) -/
theorem C07_bad_status (hb : Bytes) (c : Nat) (h : Headers)
    (hd : decRespHeader hb = some (c, h)) (hc : StatusCode.new c = none) :
    parseRespHeader hb = .error (.badStatus c) := by
  simp only [parseRespHeader, hd, hc]

/-- a response decodes only with a status from the table -/
theorem C07_decoded_status_known (max : Nat) (bs : Bytes) (r : Resp) (rest : Bytes)
    (_h : decodeResponse max bs = .ok (r, rest)) : StatusCode.new r.status.toU16 = some r.status :=
  C07_status_table_fwd r.status

/-! ### non-vacuity: the hypotheses are met by concrete, non-trivial messages -/
example : ReqWF { route := [0x2f, 0xc3, 0xa9], headers := [([0x61], [0x62]), ([], [0xe2, 0x82, 0xac])], body := [1, 2, 3] } := by
  unfold ReqWF StrWF HeadersUtf8
  decide

example : ∃ bytes, encodeRequest (effMax none)
    { route := [0x2f], headers := [([0x61], [0x62])], body := [0x68, 0x69] } = .ok bytes ∧ 8 < bytes.length :=
  ⟨_, by unfold encodeRequest; rw [C07_golden_request], by decide⟩

example : effMax none ≤ lenFieldMax ∧ effMax (some 5) ≤ lenFieldMax ∧ effMax (some (2^40)) ≤ lenFieldMax := by decide

example : StatusCode.new 418 = none ∧ Version.new 2 = none := by decide


/-- **The framing the model describes is the one the source performs**, read off wire.rs on this run:
writing = version frame, then ONE length-delimited frame holding the bincode (fixed-int) serialisation
of the raw header (`route, headers` / `status, headers`, in that order; extensions are dropped), then
ONE frame holding the body; reading = version frame, header frame or "unexpected EOF", bincode
deserialisation, header conversion (the status code is checked), body frame or "unexpected EOF".
Shapes recognised (`wireShapeChecked`): the version frame (`anemo`, u16 big-endian, a zero byte;
read with `read_exact`), the codec (4-byte big-endian length, `max_frame_length` only when configured),
the connection handshake (the listener sends, the dialer reads), the raw header structs and their
conversions (names and values copied as they are, extensions start empty). -/
theorem C07_framing_is_translated :
    Gen.writeRequestGen = [.versionFrame, .splitParts, .rawHeader, .newBuffer, .bincodeFixintHeader, .sendHeaderFrame, .sendBodyFrame, .returnOk] ∧
    Gen.writeResponseGen = [.versionFrame, .splitParts, .rawHeaderDropExtensions, .newBuffer, .bincodeFixintHeader, .sendHeaderFrame, .sendBodyFrame, .returnOk] ∧
    Gen.readRequestGen = [.versionFrame, .recvHeaderFrameOrEof, .bincodeFixintHeader, .headerFromRaw, .recvBodyFrameOrEof, .assemble, .returnMessage] ∧
    Gen.readResponseGen = [.versionFrame, .recvHeaderFrameOrEof, .bincodeFixintHeader, .headerFromRawChecked, .recvBodyFrameOrEof, .assemble, .returnMessage] ∧
    Gen.wireShapeChecked = true := ⟨rfl, rfl, rfl, rfl, rfl⟩

end Anemo
