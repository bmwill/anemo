/-
C06 — A connected hostile peer cannot crash or stall the network.
What is proved is confinement and totality in the model of the serving code: whatever a peer does
on one stream (any bytes, FIN, RESET, STOP at any point) changes only that stream's machine; the
decoders are total functions, so every byte string leads to a reply, a wait for more bytes or a
clean end of that stream -- the model has no "panic" outcome to reach; unidirectional streams and
datagrams change nothing; only a connection-level error ends the connection loop.
Panic-freedom of the Rust code and of third-party parsers is NOT proved: it is exercised by the
byte-level fuzz stream (shared with C07) and by hostile raw-QUIC sessions on the fabric.
-/
import AnemoModel.Props.C02
import AnemoModel.Lemmas.Peers
namespace Anemo
open Gen

/-- whatever happens on stream `s`, every other stream is untouched -/
theorem C06_confined (max : Nat) (c : ConnState) (s : Nat) (hostile : List SrvEvent) (j : Nat) (hj : j ≠ s) :
    (Conn.run max c (hostile.map fun e => (s, e))).streams j = c.streams j :=
  Conn.run_other max c s hostile j hj

/-- what is on stream `j` is untouched by dropping everything that is on another stream `s` -/
theorem filter_other_stream {α : Type} (evs : List (Nat × α)) (s j : Nat) (hj : j ≠ s) :
    (evs.filter (fun x => x.1 ≠ s)).filter (fun x => x.1 = j) = evs.filter (fun x => x.1 = j) := by
  rw [List.filter_filter]
  apply List.filter_congr
  intro x _
  by_cases h : x.1 = j
  · simp [h, hj]
  · simp [h]

/-- honest traffic on other streams proceeds exactly as if the hostile stream did not exist:
interleave the two event lists in any way -/
theorem C06_honest_unaffected (max : Nat) (c : ConnState) (evs : List (Nat × SrvEvent)) (s j : Nat) (hj : j ≠ s) :
    (Conn.run max c evs).streams j = (Conn.run max c (evs.filter (fun x => x.1 ≠ s))).streams j := by
  rw [C02_isolation, C02_isolation, filter_other_stream evs s j hj]

/-- a garbage / malformed / oversized request never reaches a handler and ends only its own stream -/
theorem C06_malformed_local (max : Nat) (sched : Bool) (buf bs : Bytes) (sp : Bool) (e : WireErr)
    (hd : decodeRequest max (buf ++ bs) = .error e) (hn : e.needsMore = false) :
    Srv.step max sched (.reading buf sp) (.data bs) = (.over, [.resetSend, .ended false]) := by
  simp [Srv.step, hd, hn]

/-- a truncated request (FIN or RESET before it is complete) never reaches a handler -/
theorem C06_truncated_local (max : Nat) (sched : Bool) (buf : Bytes) (sp : Bool) :
    Srv.step max sched (.reading buf sp) .fin = (.over, [.resetSend, .ended false]) ∧
    Srv.step max sched (.reading buf sp) .reset = (.over, [.resetSend, .ended false]) := ⟨rfl, rfl⟩

/-- an oversized frame is one of the immediate, stream-local errors -/
theorem C06_oversize_local : WireErr.needsMore .frameTooBig = false ∧ WireErr.needsMore .badHeader = false ∧
    WireErr.needsMore .badPreamble = false ∧ (∀ v, WireErr.needsMore (.badVersion v) = false) := ⟨rfl, rfl, rfl, fun _ => rfl⟩

/-- unidirectional streams, datagrams, new request streams and finished request tasks never end the
connection loop; only a connection error does -/
theorem C06_uni_dgram_ignored (evs : List LoopEvent) (h : ∀ e ∈ evs, e ≠ .connError) :
    evs.foldl Loop.step .serving = .serving := by
  induction evs with
  | nil => rfl
  | cons e t ih =>
    have he : e ≠ .connError := h e (by simp)
    have : Loop.step .serving e = .serving := by cases e <;> first | rfl | exact absurd rfl he
    simp only [List.foldl_cons, this]
    exact ih (fun x hx => h x (by simp [hx]))

/-- after any hostile event sequence the stream machine is in one of its four phases and has emitted
at most one invocation: there is nothing else it can do (totality by construction) -/
theorem C06_total (max : Nat) (sched : Bool) (es : List SrvEvent) :
    ((Srv.run max sched (.reading [] false) es).2.filter isInvoke).length ≤ 1 :=
  C02_at_most_once max sched _ es


/-- the actions on stream `j` are the same with and without everything that happens on stream `s` -/
theorem C06_honest_actions_unaffected (max : Nat) (c : ConnState) (evs : List (Nat × SrvEvent)) (s j : Nat) (hj : j ≠ s) :
    ((Conn.trace max c evs).filter (fun x => x.1 = j)).map (·.2) =
    ((Conn.trace max c (evs.filter (fun x => x.1 ≠ s))).filter (fun x => x.1 = j)).map (·.2) :=
  C02_no_swap max c _ _ j (filter_other_stream evs s j hj).symm

/-- **Peer isolation of the registry**: after ANY history of registry operations -- connections of a
hostile peer arriving, replacing each other, ending abruptly, in any interleaving with everybody
else's -- the entry of peer `q` is the one reached by the operations about `q` alone. -/
theorem C06_registry_isolation (own : PeerId) (ops : List Op) (s s' : Active) (q : PeerId)
    (hs : lookupConn s.conns q = lookupConn s'.conns q) :
    lookupConn (s.run own ops).conns q = lookupConn (s'.run own (ops.filter (fun o => o.peer = q))).conns q :=
  Active.run_lookup_project own ops s s' q hs

/-- **... and so are the events**: the subscriber sees, about peer `q`, exactly the events the operations
about `q` alone would have produced -- a hostile peer cannot fabricate, suppress or reorder them. -/
theorem C06_events_isolation (own : PeerId) (ops : List Op) (s s' : Active) (q : PeerId)
    (hs : lookupConn s.conns q = lookupConn s'.conns q) (hl : eventsOf q s.log = eventsOf q s'.log) :
    eventsOf q (s.run own ops).log = eventsOf q (s'.run own (ops.filter (fun o => o.peer = q))).log :=
  Active.run_log_project own ops s s' q hs hl

/-! non-vacuity: a hostile peer 9 connects, is replaced, drops; peer 3's entry and events are those of its own history -/
example :
    let ops : List Op := [.add ⟨1, 3, .inbound⟩, .add ⟨2, 9, .inbound⟩, .add ⟨3, 9, .inbound⟩, .removeStable 9 3 .reset, .remove 9 .requested]
    lookupConn (Active.run 5 {} ops).conns 3 = some ⟨1, 3, .inbound⟩ ∧ eventsOf 3 (Active.run 5 {} ops).log = [.newPeer 3] := by decide

/-- **What a hostile peer can reach is the per-stream sequence** the confinement theorems are about (read off the source on this run): one task per bidirectional stream running read - stamp - serve raced with stop - write - finish - wait; unidirectional streams are dropped, datagrams ignored. -/
theorem C06_rpc_path_is_translated :
    Gen.serveStepsGen = [.readRequest, .stampPeerId, .stampOrigin, .stampRemoteAddr, .stampInbound,
                         .raceHandlerWithStop, .writeResponse, .finishSend, .awaitStopped, .returnOk] ∧
    Gen.callStepsGen = [.openBi, .frameSend, .frameRecv, .writeRequest, .finishSend, .readResponse,
                        .stampResponsePeerId, .returnResponse] ∧
    Gen.rpcPathShapeChecked = true := ⟨rfl, rfl, rfl⟩

end Anemo
