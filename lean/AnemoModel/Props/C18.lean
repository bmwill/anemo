/-
C18 — Per-peer in-flight limit holds and never leaks capacity.
Invariants over EVERY history of arrivals, completions (successful or failed alike: the permit is
released when the inner future ends) and cancellations (the future is dropped while waiting or
running), any number of peers, any limit (including 0), both wait modes.
-/
import AnemoModel.Lemmas.Tower
namespace Anemo

/-! ### the invariant -/
structure Inflight.Inv (s : Inflight) : Prop where
  bound : ∀ p, (s.peers p).running.length ≤ s.limit
  full : ∀ p, (s.peers p).waiting ≠ [] → s.limit ≤ (s.peers p).running.length
  noWaitIfReturnError : s.block = false → ∀ p, (s.peers p).waiting = []

theorem step_limit (s : Inflight) (op : IOp) : (s.step op).1.limit = s.limit ∧ (s.step op).1.block = s.block := by
  cases op with
  | arrive r p =>
    cases p with
    | none => exact ⟨rfl, rfl⟩
    | some p => rw [Inflight.step_arrive_fst]; exact ⟨rfl, rfl⟩
  | finish r p | cancel r p => exact ⟨rfl, rfl⟩

def Inflight.init (limit : Nat) (block : Bool) : Inflight := { limit := limit, block := block }

namespace Inflight

theorem inv_iff (s : Inflight) : s.Inv ↔ ∀ p, SlotsOk s.limit s.block (s.peers p) :=
  ⟨fun h p => ⟨h.bound p, h.full p, fun hb => h.noWaitIfReturnError hb p⟩,
   fun h => ⟨fun p => (h p).bound, fun p => (h p).full, fun hb p => (h p).noWait hb⟩⟩

theorem run_limit (s : Inflight) (ops : List IOp) : (s.run ops).limit = s.limit ∧ (s.run ops).block = s.block := by
  induction ops generalizing s with
  | nil => exact ⟨rfl, rfl⟩
  | cons op t ih =>
    rw [← (step_limit s op).1, ← (step_limit s op).2]
    exact ih _

namespace Inv

theorem init (limit : Nat) (block : Bool) : (Inflight.init limit block).Inv :=
  ⟨fun _ => Nat.zero_le _, fun _ h => absurd rfl h, fun _ _ => rfl⟩

variable {s : Inflight} (h : s.Inv)
include h

theorem setPeer (p : Nat) {x : PeerSlots} (hx : SlotsOk s.limit s.block x) : (setPeer s p x).Inv := by
  rw [inv_iff] at h ⊢
  intro q
  rw [setPeer_peers]
  split
  · exact hx
  · exact h q

theorem step (op : IOp) : (s.step op).1.Inv := by
  have hs := (inv_iff s).mp h
  cases op with
  | arrive r p =>
    cases p with
    | none => exact h
    | some p => rw [step_arrive_fst]; exact h.setPeer p ((hs p).arrive r)
  | finish r p | cancel r p => exact h.setPeer p ((hs p).leave r)

theorem run (ops : List IOp) : (s.run ops).Inv := by
  induction ops generalizing s with
  | nil => exact h
  | cons op t ih => exact ih (h.step op)

end Inv

/-- from the initial state every history keeps every peer's slots in order -/
theorem init_run_ok (limit : Nat) (block : Bool) (ops : List IOp) (p : Nat) :
    SlotsOk limit block (((init limit block).run ops).peers p) := by
  have h := (inv_iff _).mp ((Inv.init limit block).run ops) p
  rwa [(run_limit _ ops).1, (run_limit _ ops).2] at h

end Inflight

/-- at every instant, for every peer, the requests executing inside the wrapped service never exceed the maximum -/
theorem C18_bound (limit : Nat) (block : Bool) (ops : List IOp) (p : Nat) :
    (((Inflight.init limit block).run ops).peers p).running.length ≤ limit :=
  (Inflight.init_run_ok limit block ops p).bound

/-- Block mode is work conserving: a request waits only while all of its peer's slots are taken
(so a waiter starts as soon as a slot frees), and waiters start in arrival order (`C18_fifo`) -/
theorem C18_block_progress (limit : Nat) (block : Bool) (ops : List IOp) (p : Nat) :
    (((Inflight.init limit block).run ops).peers p).waiting ≠ [] →
      (((Inflight.init limit block).run ops).peers p).running.length = limit :=
  fun hw => Nat.le_antisymm (Inflight.init_run_ok limit block ops p).bound ((Inflight.init_run_ok limit block ops p).full hw)

theorem C18_fifo (limit : Nat) (running waiting : List Nat) :
    (promote limit running waiting).2 ++ (promote limit running waiting).1.waiting = waiting := by
  rw [promote_eq]
  exact List.take_append_drop _ _

/-- ReturnError mode: a request is refused exactly when all of its peer's slots are taken at arrival;
a refused request never runs and changes nothing; nobody ever waits -/
theorem C18_return_error_exact (s : Inflight) (h : s.Inv) (hb : s.block = false) (r p : Nat) :
    ((s.step (.arrive r (some p))).2.1 = .refused r ↔ (s.peers p).running.length = s.limit) ∧
    ((s.step (.arrive r (some p))).2.1 = .refused r → (s.step (.arrive r (some p))).1.peers = s.peers ∧ (s.step (.arrive r (some p))).2.2 = []) ∧
    ((s.peers p).running.length < s.limit → (s.step (.arrive r (some p))).2.1 = .started r ∧ (s.step (.arrive r (some p))).2.2 = [r]) := by
  rw [Inflight.step_arrive_returnError s r p hb]
  by_cases hl : (s.peers p).running.length < s.limit
  · rw [if_pos hl]
    exact ⟨⟨fun h => IOut.noConfusion h, fun h => absurd h (Nat.ne_of_lt hl)⟩, fun h => IOut.noConfusion h, fun _ => ⟨rfl, rfl⟩⟩
  · rw [if_neg hl]
    exact ⟨⟨fun _ => Nat.le_antisymm (h.bound p) (Nat.le_of_not_lt hl), fun _ => rfl⟩, fun _ => ⟨rfl, rfl⟩, fun h => absurd h hl⟩

/-- a request without an authenticated sender is answered with an internal error and never reaches the service -/
theorem C18_missing_peer (s : Inflight) (r : Nat) :
    s.step (.arrive r none) = (s, .noPeer r, []) := rfl

/-- one peer's traffic never touches another peer's slots -/
theorem C18_peer_isolation (s : Inflight) (op : IOp) (q : Nat)
    (hq : match op with | .arrive _ (some p) => q ≠ p | .arrive _ none => True | .finish _ p => q ≠ p | .cancel _ p => q ≠ p) :
    (s.step op).1.peers q = s.peers q := by
  cases op with
  | arrive r p =>
    cases p with
    | none => rfl
    | some p => rw [Inflight.step_arrive_fst, setPeer_peers, if_neg hq]
  | finish r p | cancel r p =>
    show (setPeer s p _).peers q = _
    rw [setPeer_peers, if_neg hq]

/-- a request that finishes, fails or is cancelled is gone from its peer's slots: its permit is free -/
theorem C18_end_frees (s : Inflight) (r p : Nat) :
    r ∉ ((s.step (.finish r p)).1.peers p).running ∧ r ∉ ((s.step (.finish r p)).1.peers p).waiting ∧
    r ∉ ((s.step (.cancel r p)).1.peers p).running ∧ r ∉ ((s.step (.cancel r p)).1.peers p).waiting := by
  have key : r ∉ ((s.step (.finish r p)).1.peers p).all := by
    rw [Inflight.step_finish_fst, setPeer_peers, if_pos rfl, PeerSlots.leave_all]
    simp
  rw [List.mem_append, not_or] at key
  rw [Inflight.step_cancel]
  exact ⟨key.1, key.2, key.1, key.2⟩

/-- a step keeps what peer `p`'s slots hold within what the history counts as pending -/
theorem step_subset_pending (p : Nat) (block : Bool) (s : Inflight) (op : IOp) (acc : List Nat)
    (h : (s.peers p).all ⊆ acc) : ((s.step op).1.peers p).all ⊆ pendingOf p block [op] acc := by
  -- an op of peer `q` writes new slots `x` at `q`, and `pendingOf` updates its list to some `acc'` if `q = p`
  have hset : ∀ q x acc', (q = p → x.all ⊆ acc') → ((setPeer s q x).peers p).all ⊆ if q = p then acc' else acc := by
    intro q x acc' hx
    rw [setPeer_peers]
    by_cases hq : q = p
    · rw [if_pos hq, if_pos hq.symm]; exact hx hq
    · rw [if_neg hq, if_neg (Ne.symm hq)]; exact h
  cases op with
  | arrive r q =>
    cases q with
    | none => exact h
    | some q =>
      rw [Inflight.step_arrive_fst]
      exact hset q _ _ fun hq => PeerSlots.arrive_all_subset _ _ _ (hq ▸ h)
  | finish r q | cancel r q =>
    exact hset q ((s.peers q).leave s.limit r) _ fun hq => by
      rw [PeerSlots.leave_all]
      exact List.filter_subset _ (hq ▸ h)

/-- no leak: whatever occupies or waits for a slot is a request that arrived and has not ended -/
theorem occupied_subset_pending (p : Nat) (block : Bool) (s : Inflight) (ops : List IOp) (acc : List Nat)
    (h : (s.peers p).all ⊆ acc) : ((s.run ops).peers p).all ⊆ pendingOf p block ops acc := by
  induction ops generalizing s acc with
  | nil => exact h
  | cons op t ih =>
    rw [pendingOf_cons]
    exact ih _ _ (step_subset_pending p block s op acc h)

/-- capacity never leaks: once every request of a peer that arrived has finished, failed or been
cancelled, all of that peer's slots are free again and nobody waits -/
theorem C18_no_leak (limit : Nat) (block : Bool) (ops : List IOp) (p : Nat)
    (hall : pendingOf p block ops [] = []) :
    (((Inflight.init limit block).run ops).peers p).running = [] ∧
    (((Inflight.init limit block).run ops).peers p).waiting = [] := by
  have h := occupied_subset_pending p block (Inflight.init limit block) ops [] (List.Subset.refl _)
  rw [hall] at h
  exact List.append_eq_nil_iff.mp (List.eq_nil_of_subset_nil h)

/-- conservation: free permits + running = limit (permits are what the semaphore holds) -/
theorem C18_conservation (limit : Nat) (block : Bool) (ops : List IOp) (p : Nat) :
    (limit - (((Inflight.init limit block).run ops).peers p).running.length) +
      (((Inflight.init limit block).run ops).peers p).running.length = limit :=
  Nat.sub_add_cancel (C18_bound limit block ops p)

/-! non-vacuity: limit 2, block mode, three arrivals, a finish promotes the waiter, a cancel frees the rest -/
example :
    let s := (Inflight.init 2 true).run [.arrive 1 (some 7), .arrive 2 (some 7), .arrive 3 (some 7), .arrive 4 (some 8)]
    (s.peers 7).running = [1, 2] ∧ (s.peers 7).waiting = [3] ∧ (s.peers 8).running = [4] ∧
    ((s.step (.finish 1 7)).1.peers 7).running = [2, 3] ∧ (s.step (.finish 1 7)).2.2 = [3] := by decide
example : pendingOf 7 true [.arrive 1 (some 7), .arrive 2 (some 7), .finish 1 7, .cancel 2 7] [] = [] := by decide


/-- cancelling everything in `l` empties any accumulator whose members are all in `l` -/
theorem pendingOf_cancel_all (p : Nat) (block : Bool) (l acc : List Nat) (h : acc ⊆ l) :
    pendingOf p block (l.map (fun r => IOp.cancel r p)) acc = [] := by
  induction l generalizing acc with
  | nil => exact List.eq_nil_of_subset_nil h
  | cons r t ih =>
    rw [List.map_cons, pendingOf, if_pos rfl]
    apply ih
    intro x hx
    have hm := List.mem_filter.mp hx
    exact (List.mem_cons.mp (h hm.1)).resolve_left (by simpa using hm.2)

/-- **When a connection goes away its slots come back.**  Whatever happened before (any history, any
limit, either mode), once the connection handler has dropped the futures of all of the peer's requests
that are still pending -- which is what the end of a connection does (`inflight_requests.shutdown()`,
pinned by the translator) -- none of the peer's slots is taken and nobody waits: a peer that reconnects
finds its full quota. -/
theorem C18_connection_loss_frees (limit : Nat) (block : Bool) (ops : List IOp) (p : Nat) :
    let lost := (pendingOf p block ops []).map (fun r => IOp.cancel r p)
    (((Inflight.init limit block).run (ops ++ lost)).peers p).running = [] ∧
    (((Inflight.init limit block).run (ops ++ lost)).peers p).waiting = [] := by
  intro lost
  apply C18_no_leak
  rw [pendingOf_append]
  exact pendingOf_cancel_all p block _ _ (List.Subset.refl _)

example : (((Inflight.init 1 true).run ([.arrive 1 (some 7), .arrive 2 (some 7)] ++ [.cancel 1 7, .cancel 2 7])).peers 7).running = [] := by decide

/-- **The in-flight limiter the model describes is the one in the source** (read off anemo-tower on this
run): one semaphore per sender created on first use with `max_inflight` permits; the permit is an RAII
guard held across `inner.call(req).await` (so completion, failure and cancellation all return it);
`Block` waits for a permit, `ReturnError` refuses with TooManyRequests when none is free; a request
without sender identity is refused with an internal error before anything else. -/
theorem C18_layer_is_translated :
    Gen.inflightRefusalStatus = Gen.StatusCode.TooManyRequests ∧ Gen.towerShapeChecked = true := ⟨rfl, rfl⟩

/-- **"Per peer" means per 32-byte identity** (derived equality and hash of `PeerId`, checked on this run), and
the slot of a request that is cancelled is freed because its future is dropped: by the layer when the
caller goes away, and by the connection handler (translator items `rpcpath`, `registry`: the handler
is raced against the caller's stop signal; in-flight request tasks are shut down when the connection
ends) when the connection does. -/
theorem C18_identity_is_pinned : Gen.peerIdShapeChecked = true ∧ Gen.rpcPathShapeChecked = true := ⟨rfl, rfl⟩

end Anemo
