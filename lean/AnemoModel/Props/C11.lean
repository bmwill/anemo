/-
C11 — Request deadline = min(local default, timeout header), end to end.
All header strings (any bytes), all combinations of configured defaults, all handler durations.
Equality of a duration and a deadline is left unspecified by the property; the end-to-end theorem
states the strict cases.
-/
import AnemoModel.Timeout
namespace Anemo
open Gen

/-! ### the deadline is the smaller of default and header; either may be absent -/
theorem C11_min (d r : Nat) :
    effective (some d) (some r) = some (min r d) ∧ effective (some d) none = some d ∧
    effective none (some r) = some r ∧ effective none none = none := ⟨rfl, rfl, rfl, rfl⟩

theorem headerTimeout_some (s : Bytes) : headerTimeout (some s) = parseU64 s := rfl

/-- an unparsable header counts as absent -/
theorem C11_unparsable_is_absent (default? : Option Nat) (s : Bytes) (h : parseU64 s = none) :
    effective default? (headerTimeout (some s)) = effective default? (headerTimeout none) := by
  rw [headerTimeout_some, h]
  rfl

/-- a remote peer can shorten but never extend the local limit ... -/
theorem C11_remote_cannot_extend (d : Nat) (hdr : Option Bytes) :
    ∃ e, effective (some d) (headerTimeout hdr) = some e ∧ e ≤ d := by
  cases headerTimeout hdr with
  | none => exact ⟨d, rfl, Nat.le_refl d⟩
  | some r => exact ⟨min r d, rfl, Nat.min_le_right r d⟩

/-- ... nor disable it -/
theorem C11_disable_impossible (d : Nat) (hdr : Option Bytes) : effective (some d) (headerTimeout hdr) ≠ none := by
  obtain ⟨e, he, _⟩ := C11_remote_cannot_extend d hdr
  rw [he]
  exact Option.some_ne_none e

theorem C11_remote_can_shorten (d r : Nat) (s : Bytes) (hp : parseU64 s = some r) (hr : r ≤ d) :
    effective (some d) (headerTimeout (some s)) = some r := by
  rw [headerTimeout_some, hp]
  exact congrArg some (Nat.min_eq_left hr)

/-- whatever the header says, the effective deadline never exceeds the header's own value either -/
theorem C11_header_bound (default? : Option Nat) (s : Bytes) (r : Nat) (hp : parseU64 s = some r) :
    ∃ e, effective default? (headerTimeout (some s)) = some e ∧ e ≤ r := by
  rw [headerTimeout_some, hp]
  cases default? with
  | none => exact ⟨r, rfl, Nat.le_refl r⟩
  | some d => exact ⟨min r d, rfl, Nat.min_le_left r d⟩

/-! ### which header strings parse (Rust `u64::from_str`) -/
theorem C11_parse_lt (s : Bytes) (v : Nat) (h : parseU64 s = some v) : v < 2^64 := by
  unfold parseU64 parseU64Digits at h
  split at h
  · cases h
  · split at h
    · split at h
      · cases h
        assumption
      · cases h
    · cases h

/-- concrete strings: "", "+", "-1", " 5", "5 ", "1e3", 2^64 are absent; "0", "+5", "007", 2^64-1 parse -/
theorem C11_parse_examples :
    parseU64 [] = none ∧ parseU64 [0x2b] = none ∧ parseU64 [0x2d, 0x31] = none ∧ parseU64 [0x20, 0x35] = none ∧
    parseU64 [0x35, 0x20] = none ∧ parseU64 [0x31, 0x65, 0x33] = none ∧
    parseU64 [0x30] = some 0 ∧ parseU64 [0x2b, 0x35] = some 5 ∧ parseU64 [0x30, 0x30, 0x37] = some 7 ∧
    parseU64 (toDec (2^64)) = none ∧ parseU64 (toDec (2^64 - 1)) = some (2^64 - 1) := by decide

/-! ### `set_timeout` / `timeout()` round trip -/

/-- reading the digit byte of `k` appends `k` to the value read so far -/
theorem parseDigits_digit (k : Nat) (hk : k < 10) (rest : List UInt8) (a : Nat) :
    parseDigits (UInt8.ofNat (0x30 + k) :: rest) a = parseDigits rest (a * 10 + k) := by
  have hv : (UInt8.ofNat (0x30 + k)).toNat = 0x30 + k :=
    UInt8.toNat_ofNat'.trans (Nat.mod_eq_of_lt (by omega))
  have hd : isDigit (UInt8.ofNat (0x30 + k)) = true := by
    rw [isDigit, Bool.and_eq_true, decide_eq_true_eq, decide_eq_true_eq, UInt8.le_iff_toNat_le,
      UInt8.le_iff_toNat_le, hv]
    exact ⟨Nat.le_add_right 0x30 k, Nat.add_le_add_left (Nat.le_of_lt_succ hk) 0x30⟩
  rw [parseDigits, if_pos hd, hv, Nat.add_sub_cancel_left]

/-- with enough fuel for the digits of `n`, reading what `toDecAux` puts in front of `acc` amounts to
starting the reading of `acc` at `n` -/
theorem parseDigits_toDecAux (fuel n : Nat) (acc : List UInt8) (hn : n < 10^fuel) :
    parseDigits (toDecAux fuel n acc) 0 = parseDigits acc n := by
  induction fuel generalizing n acc with
  | zero =>
    obtain rfl : n = 0 := Nat.lt_one_iff.mp hn
    rfl
  | succ f ih =>
    rw [toDecAux]
    split
    · rw [parseDigits_digit n ‹n < 10›, Nat.zero_mul, Nat.zero_add]
    · rw [ih _ _ (Nat.div_lt_of_lt_mul (Nat.pow_succ' ▸ hn)), parseDigits_digit _ (Nat.mod_lt n (by decide)),
        Nat.div_add_mod']

theorem toDecAux_ne_nil (fuel n : Nat) (acc : List UInt8) : toDecAux (fuel+1) n acc ≠ [] := by
  induction fuel generalizing n acc with
  | zero =>
    rw [toDecAux]
    split <;> exact List.cons_ne_nil _ _
  | succ f ih =>
    rw [toDecAux]
    split
    · exact List.cons_ne_nil _ _
    · exact ih _ _

theorem stripPlus_cons (b : UInt8) (t : Bytes) (hb : b ≠ 0x2b) : stripPlus (b :: t) = b :: t := by
  unfold stripPlus
  split
  · rename_i h
    cases h
    exact absurd rfl hb
  · rfl

/-- a nonempty string of digits with a value below 2^64 is read as that value -/
theorem parseU64_of_parseDigits (s : Bytes) (v : Nat) (hs : s ≠ []) (h : parseDigits s 0 = some v) (hv : v < 2^64) :
    parseU64 s = some v := by
  cases s with
  | nil => exact absurd rfl hs
  | cons b t =>
    -- '+' is not a digit, so a string that starts with it has no value
    have hb : b ≠ 0x2b := by
      rintro rfl
      cases h
    rw [parseU64, stripPlus_cons b t hb]
    unfold parseU64Digits
    simp only
    rw [h]
    exact if_pos hv

theorem parseU64_toDec (n : Nat) (hn : n < 2^64) : parseU64 (toDec n) = some n :=
  parseU64_of_parseDigits _ n (toDecAux_ne_nil n n [])
    (parseDigits_toDecAux (n+1) n [] (Nat.lt_of_succ_lt (Nat.lt_pow_self (by decide)))) hn

/-- the header written by `set_timeout(x)` is read back as `min x (2^64-1)` nanoseconds -/
theorem C11_roundtrip_header (x : Nat) : parseU64 (durationToHeader x) = some (min x (2^64 - 1)) :=
  parseU64_toDec _ (Nat.lt_of_le_of_lt (Nat.min_le_right x _) (by decide))

/-! ### the race and the end-to-end outcome -/
theorem race_le {dl : Option Nat} {d : Nat} (h : ∀ x, dl = some x → d ≤ x) : race dl d = .answered := by
  cases dl with
  | none => rfl
  | some x => exact if_pos (h x rfl)

theorem race_gt {dl d : Nat} (h : dl < d) : race (some dl) d = .cutOff :=
  if_neg (Nat.not_le_of_lt h)

theorem C11_race (dl d : Nat) : (d < dl → race (some dl) d = .answered) ∧ (dl < d → race (some dl) d = .cutOff) ∧
    race none d = .answered :=
  ⟨fun h => if_pos (Nat.le_of_lt h), race_gt, rfl⟩

/-- `endToEnd` in terms of the two effective deadlines -/
def e2eOf (eOut eIn : Option Nat) (d : Nat) : E2E :=
  match race eIn d, eOut with
  | .answered, none => .answered
  | .answered, some o => if d ≤ o then .answered else .callerTimeout
  | .cutOff, none => .calleeCutOff
  | .cutOff, some o => match eIn with
    | some i => if i ≤ o then .calleeCutOff else .callerTimeout
    | none => .callerTimeout

theorem endToEnd_eq (outD inD : Option Nat) (hdr : Option Bytes) (d : Nat) :
    endToEnd outD inD hdr d = e2eOf (effective outD (headerTimeout hdr)) (effective inD (headerTimeout hdr)) d := rfl

/-- with no header the effective deadlines are the configured defaults -/
theorem endToEnd_none (outD inD : Option Nat) (d : Nat) : endToEnd outD inD none d = e2eOf outD inD d := by
  cases outD <;> cases inD <;> rfl

/-! The three outcomes, ties included: a tie between handler and deadline goes to the handler, a tie
between the two deadlines to the callee. -/

theorem e2eOf_answered {eo ei : Option Nat} {d : Nat} (hi : ∀ i, ei = some i → d ≤ i)
    (ho : ∀ o, eo = some o → d ≤ o) : e2eOf eo ei d = .answered := by
  unfold e2eOf
  rw [race_le hi]
  cases eo with
  | none => rfl
  | some o => exact if_pos (ho o rfl)

theorem e2eOf_calleeCutOff {eo ei : Option Nat} {i d : Nat} (hi : ei = some i) (hid : i < d)
    (ho : ∀ o, eo = some o → i ≤ o) : e2eOf eo ei d = .calleeCutOff := by
  subst hi
  unfold e2eOf
  rw [race_gt hid]
  cases eo with
  | none => rfl
  | some o => exact if_pos (ho o rfl)

theorem e2eOf_callerTimeout {eo ei : Option Nat} {o d : Nat} (ho : eo = some o) (hod : o < d)
    (hi : ∀ i, ei = some i → o < i) : e2eOf eo ei d = .callerTimeout := by
  subst ho
  unfold e2eOf
  cases race ei d with
  | answered => exact if_neg (Nat.not_le_of_lt hod)
  | cutOff =>
    cases ei with
    | none => rfl
    | some i => exact if_neg (Nat.not_le_of_lt (hi i rfl))

/-- a callee deadline shorter than the handler's need rules out a normal answer ... -/
theorem e2eOf_ne_answered_of_callee {eo : Option Nat} {i d : Nat} (hid : i < d) :
    e2eOf eo (some i) d ≠ .answered := by
  unfold e2eOf
  rw [race_gt hid]
  cases eo with
  | none => nofun
  | some o =>
    simp only
    split <;> nofun

/-- ... and so does a caller deadline shorter than that -/
theorem e2eOf_ne_answered_of_caller {ei : Option Nat} {o d : Nat} (hod : o < d) :
    e2eOf (some o) ei d ≠ .answered := by
  unfold e2eOf
  cases race ei d with
  | answered =>
    simp only
    rw [if_neg (Nat.not_le_of_lt hod)]
    nofun
  | cutOff =>
    cases ei with
    | none => nofun
    | some i =>
      simp only
      split <;> nofun

/-- End to end, strict cases.  With `eOut`/`eIn` the two effective deadlines (each = min of the local
default for that direction and the header, or absent):
* a handler needing less than both is answered normally;
* one needing more than the callee's deadline, when that deadline is the strictly smaller one (or the
  caller has none), is cut off by the callee (RequestTimeout reply, handler dropped);
* one needing more than the caller's deadline, when that is the strictly smaller one (or the callee has
  none), ends with a timeout error at the caller. -/
theorem C11_end_to_end (outD inD : Option Nat) (hdr : Option Bytes) (d : Nat) :
    let eOut := effective outD (headerTimeout hdr)
    let eIn := effective inD (headerTimeout hdr)
    ((∀ o, eOut = some o → d < o) → (∀ i, eIn = some i → d < i) → endToEnd outD inD hdr d = .answered) ∧
    (∀ i, eIn = some i → i < d → (∀ o, eOut = some o → i < o) → endToEnd outD inD hdr d = .calleeCutOff) ∧
    (∀ o, eOut = some o → o < d → (∀ i, eIn = some i → o < i) → endToEnd outD inD hdr d = .callerTimeout) := by
  intro eOut eIn
  rw [endToEnd_eq]
  refine ⟨fun ho hi => ?_, fun i hi hid ho => ?_, fun o ho hod hi => ?_⟩
  · exact e2eOf_answered (fun i h => Nat.le_of_lt (hi i h)) (fun o h => Nat.le_of_lt (ho o h))
  · exact e2eOf_calleeCutOff hi hid (fun o h => Nat.le_of_lt (ho o h))
  · exact e2eOf_callerTimeout ho hod hi

/-- the configured defaults take effect on every RPC: with no header at all, an RPC whose handler
needs longer than a configured default cannot be answered normally -/
theorem C11_defaults_take_effect (outD inD : Option Nat) (d : Nat)
    (h : (∃ o, outD = some o ∧ o < d) ∨ (∃ i, inD = some i ∧ i < d)) :
    endToEnd outD inD none d ≠ .answered := by
  rw [endToEnd_none]
  rcases h with ⟨o, rfl, hod⟩ | ⟨i, rfl, hid⟩
  · exact e2eOf_ne_answered_of_caller hod
  · exact e2eOf_ne_answered_of_callee hid

/-! non-vacuity -/
example : endToEnd (some 500) (some 300) none 400 = .calleeCutOff ∧ endToEnd (some 300) (some 500) none 400 = .callerTimeout ∧
    endToEnd (some 500) (some 300) (some [0x32, 0x30, 0x30]) 250 = .calleeCutOff ∧
    endToEnd none none (some [0x78]) 99999 = .answered := by decide


/-- **The deadline rule the model states is the one in the source** (shapes recognised on this run):
`try_parse_timeout` reads the `timeout` header as u64 nanoseconds (anything else is an error that both
layers turn into "absent"); both layers take the smaller of header and default, or whichever is present;
the deadline races the inner call (the call wins a tie), the serving side answers RequestTimeout, the
calling side fails with "Timeout expired"; every network wraps the user's service in the inbound layer
with `inbound_request_timeout` and every outbound call in the outbound layer with
`outbound_request_timeout`, with or without a user-supplied outbound layer. -/
theorem C11_layers_are_translated : Gen.timeoutShapeChecked = true := rfl

end Anemo

namespace Anemo

/-- **A zero deadline is a deadline**: the header `0` is not "absent" - whatever the local default (none
included), the effective deadline is 0, so a handler that needs any time at all is cut off -/
theorem C11_zero_header_is_zero (default? : Option Nat) :
    effective default? (headerTimeout (some [0x30])) = some 0 ∧
    ∀ d, 0 < d → race (effective default? (headerTimeout (some [0x30]))) d = .cutOff := by
  obtain ⟨e, he, h0⟩ := C11_header_bound default? [0x30] 0 (by decide)
  obtain rfl := Nat.le_zero.mp h0
  exact ⟨he, fun d hd => he ▸ race_gt hd⟩

end Anemo
