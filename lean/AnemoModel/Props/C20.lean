/-
C20 — Authorization layer gates every request; the allow-list is exact.
The layer holds no state, so concurrent requests through clones are independent single calls
(`authCall` is a pure function of the request): every interleaving is a product of the cases below.
-/
import AnemoModel.Lemmas.Tower
namespace Anemo
open Gen

/-- a refused request gets exactly the authorizer's response and causes no invocation -/
theorem C20_refusal_exact (auth : AReq → Except AResp AReq) (inner : AReq → AResp) (req : AReq) (e : AResp)
    (h : auth req = .error e) : authCall auth inner req = (e, []) := by
  unfold authCall; rw [h]

theorem C20_accept_exact (auth : AReq → Except AResp AReq) (inner : AReq → AResp) (req r' : AReq)
    (h : auth req = .ok r') : authCall auth inner req = (inner r', [r']) := by
  unfold authCall; rw [h]

/-- the inner service is invoked iff the authorizer accepted, and then exactly once, with the
request the authorizer passed on -/
theorem C20_iff (auth : AReq → Except AResp AReq) (inner : AReq → AResp) (req : AReq) :
    ((authCall auth inner req).2 ≠ [] ↔ ∃ r', auth req = .ok r') ∧
    (∀ r', auth req = .ok r' → (authCall auth inner req).2 = [r'] ∧ (authCall auth inner req).1 = inner r') := by
  cases h : auth req with
  | ok r' => simp [C20_accept_exact auth inner req r' h]
  | error e => simp [C20_refusal_exact auth inner req e h]

/-- the allow-list accepts exactly the requests whose authenticated sender is listed; NotFound for
other senders, InternalServerError when no sender identity is attached; the request is passed on unchanged -/
theorem C20_allowlist (list : List Nat) (req : AReq) :
    (allowedPeers list req = .ok req ↔ ∃ p, req.sender = some p ∧ p ∈ list) ∧
    (req.sender = none → allowedPeers list req = .error ⟨500, 0⟩) ∧
    (∀ p, req.sender = some p → p ∉ list → allowedPeers list req = .error ⟨404, 0⟩) ∧
    (∀ r', allowedPeers list req = .ok r' → r' = req) :=
  ⟨by rw [allowedPeers_ok_iff]; exact and_iff_right rfl,
   fun hs => by rw [allowedPeers, hs]; rfl,
   fun p hs hp => by rw [allowedPeers, hs]; exact if_neg hp,
   fun r' h => ((allowedPeers_ok_iff list req r').mp h).1⟩

/-- end to end for the allow-list: the service is reached iff the sender is present and listed -/
theorem C20_allowlist_gates (list : List Nat) (inner : AReq → AResp) (req : AReq) :
    (authCall (allowedPeers list) inner req).2 = (if (∃ p, req.sender = some p ∧ p ∈ list) then [req] else []) := by
  cases h : allowedPeers list req with
  | ok r' =>
    obtain ⟨rfl, hp⟩ := (allowedPeers_ok_iff list req r').mp h
    rw [C20_accept_exact _ inner _ _ h, if_pos hp]
  | error e =>
    have hp : ¬ ∃ p, req.sender = some p ∧ p ∈ list := fun hp => by
      rw [(allowedPeers_ok_iff list req req).mpr ⟨rfl, hp⟩] at h
      cases h
    rw [C20_refusal_exact _ inner _ _ h, if_neg hp]

/-- duplicates and order in the allow-list do not matter (it is a set) -/
theorem C20_allowlist_set (l1 l2 : List Nat) (req : AReq) (h : ∀ p, p ∈ l1 ↔ p ∈ l2) :
    allowedPeers l1 req = allowedPeers l2 req := by
  unfold allowedPeers
  cases req.sender with
  | none => rfl
  | some p => simp [h p]

/-- **Every history, any inner service.** In whatever order concurrent requests reach the layered
service (a history IS one interleaving), the inner service sees exactly the accepted requests, in
order, each once; its final state is the one it reaches on those alone (a refused request leaves no
trace in it); one response per request. -/
theorem C20_history {S : Type} (auth : AReq → Except AResp AReq) (step : S → AReq → S × AResp)
    (s : S) (rs : List AReq) :
    (authRun auth step s rs).2.2 = accepted auth rs ∧
    (authRun auth step s rs).1 = (accepted auth rs).foldl (fun st r => (step st r).1) s ∧
    (authRun auth step s rs).2.1.length = rs.length := by
  induction rs generalizing s with
  | nil => exact ⟨rfl, rfl, rfl⟩
  | cons r rs ih =>
    unfold authRun accepted
    cases h : auth r with
    | ok r' =>
      have := ih (step s r').1
      exact ⟨congrArg _ this.1, this.2.1, congrArg (· + 1) this.2.2⟩
    | error e =>
      have := ih s
      exact ⟨this.1, this.2.1, congrArg (· + 1) this.2.2⟩

/-- refused requests can be removed from (or inserted into) a history without the service noticing -/
theorem C20_refused_invisible {S : Type} (auth : AReq → Except AResp AReq) (step : S → AReq → S × AResp)
    (s : S) (pre post : List AReq) (r : AReq) (e : AResp) (h : auth r = .error e) :
    (authRun auth step s (pre ++ r :: post)).1 = (authRun auth step s (pre ++ post)).1 ∧
    (authRun auth step s (pre ++ r :: post)).2.2 = (authRun auth step s (pre ++ post)).2.2 := by
  have h1 := C20_history auth step s (pre ++ r :: post)
  have h2 := C20_history auth step s (pre ++ post)
  rw [accepted_append, accepted, h, ← accepted_append] at h1
  exact ⟨h1.2.1.trans h2.2.1.symm, h1.1.trans h2.1.symm⟩

/-- for the allow-list: the requests that reach the service over a whole history are exactly those
with a listed sender, unchanged -/
theorem C20_allowlist_history (list : List Nat) (rs : List AReq) :
    accepted (allowedPeers list) rs = rs.filter (fun r => match r.sender with | some p => decide (p ∈ list) | none => false) := by
  induction rs with
  | nil => rfl
  | cons r rs ih =>
    rw [List.filter_cons, accepted, allowedPeers]
    cases r.sender with
    | none => exact ih
    | some p => by_cases hp : p ∈ list <;> simp [hp, ih]

/-- two stacked authorization layers: the service is reached iff BOTH accept (outer first), and a
refusal comes from the first that refuses -/
theorem C20_stacked (a1 a2 : AReq → Except AResp AReq) (inner : AReq → AResp) (req : AReq) :
    let r := authCall a1 (fun q => (authCall a2 inner q).1) req
    (∀ e, a1 req = .error e → r = (e, [])) ∧
    (∀ q e, a1 req = .ok q → a2 q = .error e → r.1 = e) ∧
    (∀ q q', a1 req = .ok q → a2 q = .ok q' → r.1 = inner q') := by
  refine ⟨fun e h => ?_, fun q e h1 h2 => ?_, fun q q' h1 h2 => ?_⟩ <;> simp [authCall, *]

example : (authRun (allowedPeers [3]) (fun (s : Nat) r => (s + r.tag, ⟨200, s⟩)) 0
    [⟨some 3, 1⟩, ⟨some 4, 10⟩, ⟨none, 100⟩, ⟨some 3, 1000⟩]) =
    (1001, [⟨200, 0⟩, ⟨404, 0⟩, ⟨500, 0⟩, ⟨200, 1⟩], [⟨some 3, 1⟩, ⟨some 3, 1000⟩]) := rfl

/-! non-vacuity -/
example : (authCall (allowedPeers [3, 5]) (fun r => ⟨200, r.tag⟩) ⟨some 5, 9⟩) = (⟨200, 9⟩, [⟨some 5, 9⟩]) := rfl
example : (authCall (allowedPeers [3, 5]) (fun r => ⟨200, r.tag⟩) ⟨some 4, 9⟩) = (⟨404, 0⟩, []) := rfl
example : (authCall (allowedPeers [3, 5]) (fun r => ⟨200, r.tag⟩) ⟨none, 9⟩) = (⟨500, 0⟩, []) := rfl


/-- **The authorization layer the model describes is the one in the source** (read off anemo-tower on this
run): `RequireAuthorization::call` runs the authorizer and EITHER calls the inner service OR answers with the
authorizer's own response (kept whole in the refusal future); the allow-list authorizer answers
`InternalServerError` when the request carries no sender identity and `NotFound` for a sender that is not
in the set - the statuses the model uses. -/
theorem C20_layer_is_translated :
    Gen.allowMissingSenderStatus.toU16 = statusInternal ∧ Gen.allowUnlistedSenderStatus.toU16 = statusNotFound ∧
    Gen.towerShapeChecked = true := ⟨rfl, rfl, rfl⟩

/-- **Identities are compared as the model compares them**: `PeerId` is 32 bytes with the DERIVED equality,
hash and order (checked on this run; a hand-written `PartialEq`/`Hash`/`Ord` is reported as a broken
tie), so "the sender is in the list" is membership of a byte string in a set of byte strings. -/
theorem C20_identity_is_pinned : Gen.peerIdShapeChecked = true := rfl

end Anemo
