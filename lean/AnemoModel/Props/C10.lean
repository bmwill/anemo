/-
C10 — Inbound admission follows peer affinity and the connection limit.
Decision logic for every affinity / limit / count, and the listener as a machine over every history
of non-overlapping arrivals, explicit dials, disconnects and known-peer edits.
-/
import AnemoModel.Lemmas.Manager
namespace Anemo
open Gen

/-- the hand-written decision is the one regenerated from `handle_incoming_task` on every run -/
theorem C10_admit_is_source (aff : Option Affinity) (limit : Option Nat) (active : Nat) :
    admits aff limit active = admitGen aff limit active := by
  cases aff with
  | none =>
    cases limit with
    | none => rfl
    | some l => simp only [admits, admitGen, ge_iff_le, ← decide_not, Nat.not_le]
  | some a => cases a <;> cases limit <;> rfl

/-- a peer configured Never is never admitted -/
theorem C10_never (limit : Option Nat) (n : Nat) : admits (some .never) limit n = false := by
  cases limit <;> rfl

/-- High and Allowed are always admitted, regardless of the limit -/
theorem C10_high_allowed_bypass (limit : Option Nat) (n : Nat) :
    admits (some .high) limit n = true ∧ admits (some .allowed) limit n = true := by
  cases limit <;> exact ⟨rfl, rfl⟩

/-- any other peer is admitted exactly when no limit is configured or the number of established
connections is below it -/
theorem C10_other_iff_below_limit (l n : Nat) :
    admits none none n = true ∧ (admits none (some l) n = true ↔ n < l) := by
  simp [admits]

/-- the count consulted is the number of ALL established connections, inbound and outbound alike:
the decision for an arrival is `admits` on the size of the connected set -/
theorem C10_arrival_decision (s : Listener) (p : Nat) :
    (s.step (.arrive p)).2 = some (admits (lookupAff s.known p) s.limit s.connected.length) := by
  rw [Listener.step_arrive]

/-- a rejected arrival changes nothing -/
theorem C10_reject_no_effect (s : Listener) (p : Nat) (h : (s.step (.arrive p)).2 = some false) :
    (s.step (.arrive p)).1 = s := by
  rw [Listener.step_arrive] at h ⊢
  rw [Option.some.inj h]
  rfl

/-- explicit and background dials never consult the limit or the affinity: they always register -/
theorem C10_outbound_unlimited (s : Listener) (p : Nat) :
    p ∈ (s.step (.dialOut p)).1.connected :=
  mem_insertSet_self s.connected p

/-- the connected set stays duplicate-free over every history, so its size is the number of
connected peers ... -/
theorem C10_connected_nodup (s : Listener) (ops : List LOp) (h : s.connected.Nodup) :
    (ops.foldl (fun s op => (s.step op).1) s).connected.Nodup := by
  induction ops generalizing s with
  | nil => exact h
  | cons op t ih =>
    refine ih (s.step op).1 ?_
    cases op with
    | arrive p =>
      rw [Listener.step_arrive]
      cases admits (lookupAff s.known p) s.limit s.connected.length
      · exact h
      · exact insertSet_nodup _ _ h
    | dialOut p => exact insertSet_nodup _ _ h
    | disconnect p => exact h.filter _
    | setKnown p a => exact h
    | removeKnown p => exact h

/-- ... and a disconnect of a connected peer lowers the count by exactly one (making room again) -/
theorem C10_disconnect_frees_one (s : Listener) (p : Nat) (hnd : s.connected.Nodup) (hp : p ∈ s.connected) :
    (s.step (.disconnect p)).1.connected.length + 1 = s.connected.length :=
  length_filter_ne s.connected p hnd hp

/-- editing the known-peer table takes effect for the next arrival: the last entry for a peer decides -/
theorem C10_known_last_wins (known : List (Nat × Affinity)) (p : Nat) (a : Affinity) :
    lookupAff (known ++ [(p, a)]) p = some a := by
  induction known with
  | nil => exact if_pos rfl
  | cons e t ih =>
    obtain ⟨q, b⟩ := e
    rw [List.cons_append, lookupAff, ih]

/-! non-vacuity: limit 1; unknown X admitted, unknown Y rejected, Allowed Z admitted over the limit,
explicit dial over the limit registers, after disconnects an unknown peer is admitted again -/
example :
    let s0 : Listener := { limit := some 1 }
    let r1 := s0.step (.arrive 10)
    let r2 := r1.1.step (.arrive 11)
    let r3 := (r2.1.step (.setKnown 12 .allowed)).1.step (.arrive 12)
    let r4 := r3.1.step (.dialOut 13)
    r1.2 = some true ∧ r2.2 = some false ∧ r3.2 = some true ∧ r4.1.connected = [10, 12, 13] ∧
    ((((r4.1.step (.disconnect 10)).1.step (.disconnect 12)).1.step (.disconnect 13)).1.step (.arrive 11)).2 = some true := by
  decide

end Anemo

namespace Anemo

/-- operations that involve no exempt peer: arrivals, disconnects, `Never` entries, removals -/
def LOp.stranger : LOp → Bool
  | .arrive _ => true
  | .disconnect _ => true
  | .setKnown _ a => a == .never
  | .removeKnown _ => true
  | .dialOut _ => false

def Listener.Strangers (l : Nat) (s : Listener) : Prop :=
  s.limit = some l ∧ (∀ e ∈ s.known, e.2 = .never) ∧ s.connected.length ≤ l

example : ({ limit := some 2 } : Listener).Strangers 2 := ⟨rfl, by simp, by simp⟩

/-- **Admission is decided where the model says, and nowhere else** (word for word, checked on this run): `handle_incoming_task` completes the handshake, applies the translated decision (`admitGen`) to the established-connection count of the active set, and only then runs the acknowledgement; `handle_connecting_result` / `add_peer` register without a second decision. -/
theorem C10_admission_path_is_pinned : Gen.dialingShapeChecked = true := rfl
end Anemo

namespace Anemo

/-- does this operation, in this state, add a connection that the limit does not govern: an outbound
dial, or an admitted arrival of a peer that has a table entry (High / Allowed; Never is not admitted) -/
def exemptAdd (s : Listener) : LOp → Bool
  | .dialOut _ => true
  | .arrive p => (lookupAff s.known p).isSome && admits (lookupAff s.known p) s.limit s.connected.length
  | _ => false

/-- run a history, counting the exempt additions on the way -/
def runCounting : Listener → List LOp → Listener × Nat
  | s, [] => (s, 0)
  | s, op :: t =>
    let r := runCounting (s.step op).1 t
    (r.1, r.2 + (if exemptAdd s op then 1 else 0))

theorem runCounting_fst (s : Listener) (ops : List LOp) :
    (runCounting s ops).1 = ops.foldl (fun s op => (s.step op).1) s := by
  induction ops generalizing s with
  | nil => rfl
  | cons op t ih => exact ih _

theorem listener_step_limit (s : Listener) (op : LOp) : (s.step op).1.limit = s.limit := by
  cases op with
  | arrive p =>
    rw [Listener.step_arrive]
    cases admits (lookupAff s.known p) s.limit s.connected.length <;> rfl
  | _ => rfl

theorem step_excess {l m : Nat} (s : Listener) (op : LOp) (hl : s.limit = some l) (hlm : l ≤ m)
    (hn : s.connected.length ≤ m) :
    (s.step op).1.connected.length ≤ m + (if exemptAdd s op then 1 else 0) := by
  cases op with
  | arrive p =>
    rw [Listener.step_arrive, exemptAdd]
    cases ha : admits (lookupAff s.known p) s.limit s.connected.length with
    | false => exact Nat.le_add_right_of_le hn
    | true =>
      have hins := insertSet_length_le s.connected p
      cases hk : lookupAff s.known p with
      | some a => exact Nat.le_trans hins (Nat.add_le_add_right hn 1)
      | none =>
        -- an unlisted peer is admitted only below the limit
        have hlt : s.connected.length < l := (C10_other_iff_below_limit l _).2.mp (by rwa [hk, hl] at ha)
        exact Nat.le_trans hins (Nat.le_trans hlt hlm)
  | dialOut p => exact Nat.le_trans (insertSet_length_le s.connected p) (Nat.add_le_add_right hn 1)
  | disconnect p => exact Nat.le_trans (List.length_filter_le _ _) hn
  | setKnown p a => exact hn
  | removeKnown p => exact hn

theorem runCounting_excess {l m : Nat} (ops : List LOp) (s : Listener) (hl : s.limit = some l) (hlm : l ≤ m)
    (hn : s.connected.length ≤ m) :
    (runCounting s ops).1.connected.length ≤ m + (runCounting s ops).2 := by
  induction ops generalizing s m with
  | nil => exact hn
  | cons op t ih =>
    have := ih (s.step op).1 ((listener_step_limit s op).trans hl) (Nat.le_add_right_of_le hlm)
      (step_excess s op hl hlm hn)
    rwa [Nat.add_right_comm, Nat.add_assoc] at this

/-- **The limit over EVERY history, exempt peers and outbound dials included**: however arrivals,
dials, disconnects and table edits interleave, the established connections never exceed the limit (or
what was already there) by more than the number of connections the limit does not govern - those the
application dialled itself and those admitted from peers with a High / Allowed entry. Every other
connection in excess is impossible; with no exempt addition this is `C10_limit_invariant`. -/
theorem C10_excess_only_exempt (l : Nat) (ops : List LOp) (s : Listener) (hl : s.limit = some l) :
    (runCounting s ops).1.connected.length ≤ max l s.connected.length + (runCounting s ops).2 :=
  runCounting_excess ops s hl (Nat.le_max_left ..) (Nat.le_max_right ..)

example : (runCounting { limit := some 1 } [.arrive 10, .arrive 11, .setKnown 12 .allowed, .arrive 12, .dialOut 13]).2 = 2 ∧
    (runCounting { limit := some 1 } [.arrive 10, .arrive 11, .setKnown 12 .allowed, .arrive 12, .dialOut 13]).1.connected = [10, 12, 13] := by
  decide

theorem stranger_step (s : Listener) (op : LOp) (hk : ∀ e ∈ s.known, e.2 = .never)
    (hop : op.stranger = true) :
    exemptAdd s op = false ∧ ∀ e ∈ (s.step op).1.known, e.2 = .never := by
  cases op with
  | arrive p =>
    rw [Listener.step_arrive, exemptAdd]
    constructor
    · cases h : lookupAff s.known p with
      | none => rfl
      | some a =>
        have ha : a = .never := hk _ (mem_of_lookupAff _ _ _ h)
        rw [ha, C10_never, Bool.and_false]
    · cases admits (lookupAff s.known p) s.limit s.connected.length <;> exact hk
  | dialOut p => cases hop
  | disconnect p => exact ⟨rfl, hk⟩
  | setKnown p a =>
    exact ⟨rfl, List.forall_mem_append.mpr ⟨hk, List.forall_mem_singleton.mpr (beq_iff_eq.mp hop)⟩⟩
  | removeKnown p => exact ⟨rfl, fun e he => hk e (List.mem_filter.mp he).1⟩

/-- **The limit holds over every history**: while nobody is exempt (no High / Allowed entry, no
outbound dial), however arrivals, disconnects and table edits interleave, the number of established
connections never exceeds the limit. -/
theorem C10_limit_invariant (l : Nat) (ops : List LOp) (s : Listener) (h : s.Strangers l)
    (hops : ∀ op ∈ ops, op.stranger = true) :
    (ops.foldl (fun s op => (s.step op).1) s).connected.length ≤ l := by
  obtain ⟨hl, hk, hn⟩ := h
  induction ops generalizing s with
  | nil => exact hn
  | cons op t ih =>
    obtain ⟨hx, hk'⟩ := stranger_step s op hk (hops op List.mem_cons_self)
    have hn' := step_excess s op hl (Nat.le_refl l) hn
    rw [hx] at hn'
    exact ih _ (fun o ho => hops o (List.mem_cons_of_mem _ ho)) ((listener_step_limit s op).trans hl) hk' hn'
end Anemo
