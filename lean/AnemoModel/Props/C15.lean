/-
C15 — Message size limits are exact, symmetric and confined to the RPC.
The limit that governs a frame is `effMax cfg = min (cfg.getD 8 MiB) (2^32-1)`: with no maximum
configured tokio-util's builder default of 8 MiB applies.  The property's last clause ("with no
maximum configured, no size limit is imposed") is therefore FALSE of the code as it stands; the
full statement is kept below as `C15_no_limit_when_unset`, its negation is proved with a concrete
witness (`C15_default_limit_witness`, replayed on the implementation by the check) and the part
that does hold is `C15_no_limit_when_unset_partial`.
-/
import AnemoModel.Lemmas.Rpc
import AnemoModel.Props.C07
namespace Anemo
open Gen

/-! ### sender side: refused before the oversized frame is written, exactly above the limit -/

theorem C15_send_exact (max : Nat) (ver : Version) (hdr body : Bytes) :
    (writeMsg max ver hdr body).2 = none ↔ hdr.length ≤ max ∧ body.length ≤ max := by
  rw [writeMsg_eq]
  split
  · split <;> simp [*]
  · simp [*]

/-- complete description of what the writer puts on the stream -/
theorem C15_write_eq (max : Nat) (ver : Version) (hdr body : Bytes) :
    writeMsg max ver hdr body =
      if hdr.length ≤ max then
        if body.length ≤ max then
          (preamble ver ++ (be32 hdr.length ++ hdr) ++ (be32 body.length ++ body), none)
        else (preamble ver ++ (be32 hdr.length ++ hdr), some .frameTooBig)
      else (preamble ver, some .frameTooBig) :=
  writeMsg_eq max ver hdr body

theorem C15_encodeRequest_eq (max : Nat) (r : Req) :
    encodeRequest max r =
      if (encReqHeader r).length ≤ max ∧ r.body.length ≤ max then
        .ok (preamble r.version ++ (be32 (encReqHeader r).length ++ encReqHeader r) ++ (be32 r.body.length ++ r.body))
      else .error .frameTooBig := by
  unfold encodeRequest writeRequest
  rw [C15_write_eq]
  by_cases h1 : (encReqHeader r).length ≤ max <;> by_cases h2 : r.body.length ≤ max <;> simp [h1, h2]

theorem C15_encodeResponse_eq (max : Nat) (r : Resp) :
    encodeResponse max r =
      if (encRespHeader r).length ≤ max ∧ r.body.length ≤ max then
        .ok (preamble r.version ++ (be32 (encRespHeader r).length ++ encRespHeader r) ++ (be32 r.body.length ++ r.body))
      else .error .frameTooBig := by
  unfold encodeResponse writeResponse
  rw [C15_write_eq]
  by_cases h1 : (encRespHeader r).length ≤ max <;> by_cases h2 : r.body.length ≤ max <;> simp [h1, h2]

/-! ### receiver side: refused on arrival, exactly above the local limit, whatever the sender allowed -/

theorem C15_recv_exact_request (wmax max : Nat) (r : Req) (bytes rest : Bytes)
    (hwmax : wmax ≤ lenFieldMax) (hmax : max ≤ lenFieldMax) (hwf : ReqWF r)
    (henc : encodeRequest wmax r = .ok bytes) :
    decodeRequest max (bytes ++ rest) =
      if (encReqHeader r).length ≤ max ∧ r.body.length ≤ max then
        .ok ({ route := r.route, headers := normHeaders r.headers, body := r.body, version := r.version, ext := [] }, rest)
      else .error .frameTooBig :=
  decodeRequest_written wmax max r bytes rest hwmax hmax hwf.1 hwf.2 henc

theorem C15_recv_exact_response (wmax max : Nat) (r : Resp) (bytes rest : Bytes)
    (hwmax : wmax ≤ lenFieldMax) (hmax : max ≤ lenFieldMax) (hwf : RespWF r)
    (henc : encodeResponse wmax r = .ok bytes) :
    decodeResponse max (bytes ++ rest) =
      if (encRespHeader r).length ≤ max ∧ r.body.length ≤ max then
        .ok ({ status := r.status, headers := normHeaders r.headers, body := r.body, version := r.version, ext := [] }, rest)
      else .error .frameTooBig :=
  decodeResponse_written wmax max r bytes rest hwmax hmax hwf (C07_status_table_fwd r.status)
    (C07_status_fits_u16 r.status) henc

/-- anything up to and including the maximum is delivered intact (boundary case `= max` included) -/
theorem C15_intact_up_to_max (max : Nat) (r : Req) (hmax : max ≤ lenFieldMax) (hwf : ReqWF r)
    (hh : (encReqHeader r).length ≤ max) (hb : r.body.length = max) :
    ∃ bytes, encodeRequest max r = .ok bytes ∧
      decodeRequest max bytes = .ok ({ route := r.route, headers := normHeaders r.headers, body := r.body,
                                       version := r.version, ext := [] }, []) := by
  have henc := (C15_encodeRequest_eq max r).trans (if_pos ⟨hh, Nat.le_of_eq hb⟩)
  have hdec := C07_roundtrip_request max r _ [] hmax hwf henc
  rw [List.append_nil] at hdec
  exact ⟨_, henc, hdec⟩

/-! ### the whole RPC: error for exactly the RPCs with an oversized frame in either direction -/

def reqDelivered (r : Req) : Req :=
  { route := r.route, headers := normHeaders r.headers, body := r.body, version := r.version, ext := [] }
def respDelivered (r : Resp) : Resp :=
  { status := r.status, headers := normHeaders r.headers, body := r.body, version := r.version, ext := [] }

theorem C15_rpc_outcome (cm sm : Nat) (req : Req) (handler : Req → Resp)
    (hcm : cm ≤ lenFieldMax) (hsm : sm ≤ lenFieldMax) (hwf : ReqWF req)
    (hwfr : RespWF (handler (reqDelivered req))) :
    rpcRoundTrip cm sm req handler =
      let resp := handler (reqDelivered req)
      if ¬ ((encReqHeader req).length ≤ cm ∧ req.body.length ≤ cm) then .error (.callerSend .frameTooBig)
      else if ¬ ((encReqHeader req).length ≤ sm ∧ req.body.length ≤ sm) then .error (.calleeRecv .frameTooBig)
      else if ¬ ((encRespHeader resp).length ≤ sm ∧ resp.body.length ≤ sm) then .error (.calleeSend .frameTooBig)
      else if ¬ ((encRespHeader resp).length ≤ cm ∧ resp.body.length ≤ cm) then .error (.callerRecv .frameTooBig)
      else .ok (respDelivered resp) := by
  simp only
  have e1 := C15_encodeRequest_eq cm req
  refine eq_ite_not (fun h1 => rpc_err1 (e1.trans (if_neg h1))) fun h1 => ?_
  replace e1 := e1.trans (if_pos h1)
  have d1 := C15_recv_exact_request cm sm req _ [] hcm hsm hwf e1
  rw [List.append_nil] at d1
  refine eq_ite_not (fun h2 => rpc_err2 e1 (d1.trans (if_neg h2))) fun h2 => ?_
  replace d1 := d1.trans (if_pos h2)
  have e2 := C15_encodeResponse_eq sm (handler (reqDelivered req))
  refine eq_ite_not (fun h3 => rpc_err3 e1 d1 (e2.trans (if_neg h3))) fun h3 => ?_
  replace e2 := e2.trans (if_pos h3)
  have d2 := C15_recv_exact_response sm cm (handler (reqDelivered req)) _ [] hsm hcm hwfr e2
  rw [List.append_nil] at d2
  exact eq_ite_not (fun h4 => rpc_err4 e1 d1 e2 (d2.trans (if_neg h4))) fun h4 => rpc_ok e1 d1 e2 (d2.trans (if_pos h4))

/-- the RPC succeeds exactly when all four frames fit both limits, and then with the handler's response as delivered -/
theorem rpcRoundTrip_eq_ok_iff (cm sm : Nat) (req : Req) (handler : Req → Resp) (r : Resp)
    (hcm : cm ≤ lenFieldMax) (hsm : sm ≤ lenFieldMax) (hwf : ReqWF req)
    (hwfr : RespWF (handler (reqDelivered req))) :
    rpcRoundTrip cm sm req handler = .ok r ↔
      ((encReqHeader req).length ≤ cm ∧ req.body.length ≤ cm) ∧
      ((encReqHeader req).length ≤ sm ∧ req.body.length ≤ sm) ∧
      ((encRespHeader (handler (reqDelivered req))).length ≤ sm ∧ (handler (reqDelivered req)).body.length ≤ sm) ∧
      ((encRespHeader (handler (reqDelivered req))).length ≤ cm ∧ (handler (reqDelivered req)).body.length ≤ cm) ∧
      r = respDelivered (handler (reqDelivered req)) := by
  rw [C15_rpc_outcome cm sm req handler hcm hsm hwf hwfr]
  simp only [ite_eq_iff_of_ne, ne_eq, reduceCtorEq, not_false_eq_true, Decidable.not_not, Except.ok.injEq,
    eq_comm (a := r)]

/-- success exactly when all four frames fit under both limits -/
theorem C15_rpc_ok_iff (cm sm : Nat) (req : Req) (handler : Req → Resp)
    (hcm : cm ≤ lenFieldMax) (hsm : sm ≤ lenFieldMax) (hwf : ReqWF req)
    (hwfr : RespWF (handler (reqDelivered req))) :
    (∃ r, rpcRoundTrip cm sm req handler = .ok r) ↔
      (encReqHeader req).length ≤ min cm sm ∧ req.body.length ≤ min cm sm ∧
      (encRespHeader (handler (reqDelivered req))).length ≤ min cm sm ∧
      (handler (reqDelivered req)).body.length ≤ min cm sm := by
  simp only [rpcRoundTrip_eq_ok_iff cm sm req handler _ hcm hsm hwf hwfr, Nat.le_min]
  constructor
  · rintro ⟨_, ⟨a, b⟩, ⟨c, d⟩, ⟨e, f⟩, ⟨g, h⟩, _⟩; exact ⟨⟨a, c⟩, ⟨b, d⟩, ⟨g, e⟩, ⟨h, f⟩⟩
  · rintro ⟨⟨a, c⟩, ⟨b, d⟩, ⟨g, e⟩, ⟨h, f⟩⟩; exact ⟨_, ⟨a, b⟩, ⟨c, d⟩, ⟨e, f⟩, ⟨g, h⟩, rfl⟩

theorem rpcSizeOutcome_eq_ok_iff (cm sm rh rb sh sb : Nat) :
    rpcSizeOutcome cm sm rh rb sh sb = .ok ↔
      (rh ≤ cm ∧ rb ≤ cm) ∧ (rh ≤ sm ∧ rb ≤ sm) ∧ (sh ≤ sm ∧ sb ≤ sm) ∧ (sh ≤ cm ∧ sb ≤ cm) := by
  unfold rpcSizeOutcome
  simp only [ite_eq_iff_of_ne, ne_eq, reduceCtorEq, not_false_eq_true, not_or, Nat.not_lt, and_true, gt_iff_lt]

/-- the length-only outcome function used by the line protocol agrees with the byte-level model -/
theorem C15_size_outcome_agrees (cm sm : Nat) (req : Req) (handler : Req → Resp)
    (hcm : cm ≤ lenFieldMax) (hsm : sm ≤ lenFieldMax) (hwf : ReqWF req)
    (hwfr : RespWF (handler (reqDelivered req))) :
    (rpcSizeOutcome cm sm (encReqHeader req).length req.body.length
        (encRespHeader (handler (reqDelivered req))).length (handler (reqDelivered req)).body.length = .ok)
      ↔ ∃ r, rpcRoundTrip cm sm req handler = .ok r := by
  simp only [rpcSizeOutcome_eq_ok_iff, rpcRoundTrip_eq_ok_iff cm sm req handler _ hcm hsm hwf hwfr]
  exact ⟨fun ⟨a, b, c, d⟩ => ⟨_, a, b, c, d, rfl⟩, fun ⟨_, a, b, c, d, _⟩ => ⟨a, b, c, d⟩⟩

/-- the length-only writer used by the line protocol agrees with the byte-level writer -/
theorem C15_size_write_agrees (max : Nat) (ver : Version) (hdr body : Bytes) :
    ((writeMsg max ver hdr body).1.length, (writeMsg max ver hdr body).2.isNone) =
      sizeWrite max hdr.length body.length := by
  rw [C15_write_eq]
  unfold sizeWrite
  split
  · split <;> simp only [List.length_append, beN_length, preamble_length, Option.isNone]
  · simp only [preamble_length, Option.isNone]

/-- the length-only reader agrees with the byte-level reader on what a sender wrote, whatever its own limit -/
theorem C15_size_read_agrees (wmax max : Nat) (r : Req) (bytes : Bytes)
    (hwmax : wmax ≤ lenFieldMax) (hmax : max ≤ lenFieldMax) (hwf : ReqWF r)
    (henc : encodeRequest wmax r = .ok bytes) :
    (∃ x, decodeRequest max bytes = .ok x) ↔ sizeRead max (encReqHeader r).length r.body.length = true := by
  have hdec := C15_recv_exact_request wmax max r bytes [] hwmax hmax hwf henc
  rw [List.append_nil] at hdec
  rw [hdec]
  unfold sizeRead
  split <;> simp [*]

/-! ### the default when no maximum is configured -/

/-- FULL statement of the last clause of the property (no limit when unset).  False, see below. -/
def C15_no_limit_when_unset : Prop :=
  ∀ body : Bytes, body.length ≤ lenFieldMax → ∃ bs, frame (effMax none) body = .ok bs

/-- negation witness: a body of 8 MiB + 1 bytes is refused although no maximum is configured -/
theorem C15_default_limit_witness : ¬ C15_no_limit_when_unset := by
  intro h
  -- the length is kept a variable, so that no step evaluates a list of 8 MiB
  have key : ∀ n, n = 8 * 1024 * 1024 + 1 → False := by
    intro n hn
    obtain ⟨bs, hbs⟩ := h (List.replicate n 0) (by rw [List.length_replicate, hn]; decide)
    rw [frame_err _ _ (by rw [List.length_replicate, hn]; decide)] at hbs
    cases hbs
  exact key _ rfl

theorem C15_no_limit_when_unset_partial (body : Bytes) (h : body.length ≤ 8 * 1024 * 1024) :
    ∃ bs, frame (effMax none) body = .ok bs := by
  refine ⟨_, frame_ok _ _ ?_⟩
  have : effMax none = 8 * 1024 * 1024 := by decide
  omega

theorem C15_effMax_le (cfg : Option Nat) : effMax cfg ≤ lenFieldMax := by
  unfold effMax; omega

theorem C15_effMax_some (n : Nat) (h : n ≤ lenFieldMax) : effMax (some n) = n := by
  unfold effMax; simp; omega

/-! ### non-vacuity -/
example : rpcSizeOutcome 10 10 10 10 10 10 = .ok ∧ rpcSizeOutcome 10 10 11 0 0 0 = .callerSend ∧
    rpcSizeOutcome 100 10 11 0 0 0 = .calleeRecv ∧ rpcSizeOutcome 100 10 0 0 0 11 = .calleeSend ∧
    rpcSizeOutcome 10 100 0 0 11 0 = .callerRecv := by decide


/-- **The framing the model describes is the one the source performs**, read off wire.rs on this run:
writing = version frame, then ONE length-delimited frame holding the bincode (fixed-int) serialisation
of the raw header (`route, headers` / `status, headers`, in that order; extensions are dropped), then
ONE frame holding the body; reading = version frame, header frame or "unexpected EOF", bincode
deserialisation, header conversion (the status code is checked), body frame or "unexpected EOF".
Shapes recognised (`wireShapeChecked`): the version frame (`anemo`, u16 big-endian, a zero byte;
read with `read_exact`), the codec (4-byte big-endian length, `max_frame_length` only when configured),
the connection handshake (the listener sends, the dialer reads), the raw header structs and their
conversions (names and values copied as they are, extensions start empty). -/
theorem C15_framing_is_translated :
    Gen.writeRequestGen = [.versionFrame, .splitParts, .rawHeader, .newBuffer, .bincodeFixintHeader, .sendHeaderFrame, .sendBodyFrame, .returnOk] ∧
    Gen.writeResponseGen = [.versionFrame, .splitParts, .rawHeaderDropExtensions, .newBuffer, .bincodeFixintHeader, .sendHeaderFrame, .sendBodyFrame, .returnOk] ∧
    Gen.readRequestGen = [.versionFrame, .recvHeaderFrameOrEof, .bincodeFixintHeader, .headerFromRaw, .recvBodyFrameOrEof, .assemble, .returnMessage] ∧
    Gen.readResponseGen = [.versionFrame, .recvHeaderFrameOrEof, .bincodeFixintHeader, .headerFromRawChecked, .recvBodyFrameOrEof, .assemble, .returnMessage] ∧
    Gen.wireShapeChecked = true := C07_framing_is_translated

end Anemo
