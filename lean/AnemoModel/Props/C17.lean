/-
C17 — Generated typed clients reach the matching typed handlers.
Route formulas are the ones regenerated from anemo-build on every run (`Gen.clientPathGen`,
`Gen.serverPathGen`, `Gen.serviceNameGen`, `Gen.rpcRoutePatternGen`).  Domain guards, explicit:
service names free of '*' and ':' for the router-prefix theorem (identifier-shaped names);
the status theorems are about a Status whose header keys are distinct (it is a HashMap) and an
ERROR status -- a handler that returns `Err(Status)` carrying a *success* code is outside the
claim (the client then reads the empty body as a reply; recorded in the evidence).
-/
import AnemoModel.Codegen
import AnemoModel.Lemmas.Wire
import AnemoModel.Lemmas.Routing
namespace Anemo
open Gen

/-- client and server agree on every method's route, for every package (empty or dotted), service
and method name -/
theorem C17_paths_agree (pkg svc m : Bytes) : clientPathGen pkg svc m = serverPathGen pkg svc m := rfl

/-- the route is "/" ++ service name ++ "/" ++ method -/
theorem C17_path_shape (pkg svc m : Bytes) :
    clientPathGen pkg svc m = [slash] ++ serviceNameGen pkg svc ++ [slash] ++ m := by
  simp only [clientPathGen, serviceNameGen, slash, List.append_assoc]

/-- what `add_rpc_service` registers is the catch-all under "/<service name>/" -/
theorem C17_registered_prefix (name : Bytes) (hn : ∀ c ∈ name, c ≠ 0x2a ∧ c ≠ 0x3a) :
    parsePattern (rpcRoutePatternGen name) = some (.catchAll ([slash] ++ name ++ [slash])) := by
  have hshape : rpcRoutePatternGen name = ([slash] ++ name ++ [slash]) ++ 0x2a :: [0x72, 0x65, 0x73, 0x74] :=
    (List.append_assoc ([slash] ++ name) [slash] _).symm
  have hpre : ∀ c ∈ [slash] ++ name ++ [slash], c ≠ 0x2a ∧ c ≠ 0x3a := by
    simp only [List.forall_mem_append, List.forall_mem_singleton]
    exact ⟨⟨by decide, hn⟩, by decide⟩
  rw [hshape]
  exact parsePattern_catchAll rfl List.getLast?_concat hpre rfl ⟨rfl, rfl, rfl⟩

/-- the route of every typed call lies under the prefix the router registers for the service, so the
router hands it to that service -/
theorem C17_under_prefix (pkg svc m : Bytes) :
    (Pattern.catchAll ([slash] ++ serviceNameGen pkg svc ++ [slash])).matches (clientPathGen pkg svc m) = true := by
  rw [C17_path_shape]
  exact (Pattern.matches_catchAll _ _).mpr (List.prefix_append _ m)

/-- ... and inside the service it reaches exactly the arm of the same method name: distinct method
names have distinct routes -/
theorem C17_own_arm_only (pkg svc m1 m2 : Bytes) (h : clientPathGen pkg svc m1 = serverPathGen pkg svc m2) : m1 = m2 := by
  rw [← C17_paths_agree, C17_path_shape, C17_path_shape] at h
  exact List.append_cancel_left h

/-! ### error statuses travel intact -/

/-- What `from_response` makes of the response built from a status whose header keys are distinct and
none of which is `status-message`: the same message, and the same value (or none) under every other key. -/
theorem Status.fromResponse_intoResponse (s : Status) (hnd : (s.headers.map (·.1)).Nodup)
    (hres : headerStatusMessage ∉ s.headers.map (·.1)) :
    let r := Status.fromResponse s.intoResponse
    r.message = s.message ∧ ∀ k, k ≠ headerStatusMessage → hLookup r.headers k = hLookup s.headers k := by
  have hnorm : extendHeaders [] s.headers = s.headers := normHeaders_nodup _ hnd
  have hnone := hLookup_none_of_not_mem s.headers _ hres
  obtain ⟨code, message, headers⟩ := s
  simp only [Status.fromResponse, Status.intoResponse, hnorm]
  cases message with
  | none => exact ⟨hnone, fun _ _ => rfl⟩
  | some m =>
    refine ⟨?_, fun k hk => ?_⟩
    · rw [hLookup_hInsert, if_pos rfl]
    · rw [hLookup_hInsert, if_neg hk.symm]

/-- The response built from an error status carries the code, and -- for header keys that are distinct
and none of which is `status-message` -- `from_response` gives back: the code, the message when one
was set, every original header with its value, and nothing else except `status-message`. -/
theorem C17_status_roundtrip (s : Status) (hnd : (s.headers.map (·.1)).Nodup)
    (hres : headerStatusMessage ∉ s.headers.map (·.1)) :
    let r := Status.fromResponse s.intoResponse
    r.code = s.code ∧
    (∀ m, s.message = some m → r.message = some m) ∧
    (s.message = none → r.message = none) ∧
    (∀ k v, (k, v) ∈ s.headers → hLookup r.headers k = some v) ∧
    (∀ k, k ≠ headerStatusMessage → k ∉ s.headers.map (·.1) → hLookup r.headers k = none) := by
  intro r
  obtain ⟨hm, hl⟩ := Status.fromResponse_intoResponse s hnd hres
  refine ⟨rfl, fun m h => hm.trans h, fun h => hm.trans h, fun k v hkv => ?_, fun k hk1 hk2 => ?_⟩
  · have hk : k ≠ headerStatusMessage := fun e => hres (e ▸ List.mem_map.mpr ⟨(k, v), hkv, rfl⟩)
    exact (hl k hk).trans (hLookup_of_mem_nodup _ k v hnd hkv)
  · exact (hl k hk1).trans (hLookup_none_of_not_mem _ k hk2)

/-! ### outcomes of a typed call -/

/-- the client reports success only for a success status whose body decodes, and then returns exactly
the decoded message; it has no other way to `ok` (no wrong-typed success) -/
theorem C17_client_ok_iff {α : Type} (dec : Bytes → Option α) (r : Resp) (m : α) :
    clientUnary dec r = .ok m ↔ r.status.isSuccess = true ∧ dec r.body = some m := by
  unfold clientUnary
  by_cases hs : r.status.isSuccess = true
  · rw [if_pos hs]
    cases dec r.body <;> simp [hs]
  · rw [if_neg hs]
    simp [hs]

/-- a non-success status surfaces as that status (code, message, headers as received) -/
theorem C17_client_error_status {α : Type} (dec : Bytes → Option α) (r : Resp) (hs : r.status.isSuccess = false) :
    clientUnary dec r = .err (Status.fromResponse r) :=
  if_neg (Bool.eq_false_iff.mp hs)

/-- an undecodable reply surfaces as an Unknown error status -/
theorem C17_client_undecodable {α : Type} (dec : Bytes → Option α) (r : Resp)
    (hs : r.status.isSuccess = true) (hd : dec r.body = none) :
    ∃ s, clientUnary dec r = .err s ∧ s.code = .Unknown := by
  unfold clientUnary
  rw [if_pos hs, hd]
  exact ⟨_, rfl, rfl⟩

/-- an undecodable request is answered with an error status and the handler is not called -/
theorem C17_server_undecodable {α β : Type} (dec : Bytes → Option α) (enc : β → Option Bytes)
    (handler : α → Except Status (Headers × β)) (ct body : Bytes) (hd : dec body = none) :
    (serverUnary dec enc handler ct body).2 = 0 ∧ (serverUnary dec enc handler ct body).1.status = .Unknown ∧
    (serverUnary dec enc handler ct body).1.status.isSuccess = false := by
  unfold serverUnary
  rw [hd]
  exact ⟨rfl, rfl, rfl⟩

/-- a decodable request reaches the handler exactly once, with the decoded message -/
theorem C17_server_invokes_once {α β : Type} (dec : Bytes → Option α) (enc : β → Option Bytes)
    (handler : α → Except Status (Headers × β)) (ct body : Bytes) (m : α) (hd : dec body = some m) :
    (serverUnary dec enc handler ct body).2 = 1 := by
  simp only [serverUnary, hd]
  cases handler m with
  | error s => rfl
  | ok p =>
    obtain ⟨h, out⟩ := p
    simp only
    cases enc out <;> rfl

/-- end to end: with codecs that invert each other a typed call returns exactly the handler's reply,
and a handler error with a non-success code comes back as that status -/
theorem C17_typed_call {α β : Type} (decReq : Bytes → Option α) (encResp : β → Option Bytes) (decResp : Bytes → Option β)
    (handler : α → Except Status (Headers × β)) (ct body : Bytes) (m : α) (hd : decReq body = some m) :
    (∀ h out bytes, handler m = .ok (h, out) → encResp out = some bytes → decResp bytes = some out →
        clientUnary decResp (serverUnary decReq encResp handler ct body).1 = .ok out) ∧
    (∀ s, handler m = .error s → s.code.isSuccess = false →
        clientUnary decResp (serverUnary decReq encResp handler ct body).1 = .err (Status.fromResponse s.intoResponse)) := by
  constructor
  · intro h out bytes hh he hdd
    simp only [serverUnary, hd, hh, he]
    exact (C17_client_ok_iff decResp _ out).mpr ⟨rfl, hdd⟩
  · intro s hh hs
    simp only [serverUnary, hd, hh]
    exact C17_client_error_status decResp _ hs

/-! non-vacuity -/
example : clientPathGen [0x61, 0x2e, 0x62] [0x47] [0x4d] = [0x2f, 0x61, 0x2e, 0x62, 0x2e, 0x47, 0x2f, 0x4d] ∧
    clientPathGen [] [0x47] [0x4d] = [0x2f, 0x47, 0x2f, 0x4d] ∧ serviceNameGen [] [0x47] = [0x47] := by decide
example : parsePattern (rpcRoutePatternGen [0x47]) = some (.catchAll [0x2f, 0x47, 0x2f]) := by decide


/-- **A typed call goes to its method's route whatever route the request carried**: a `Request` that was
forwarded from elsewhere, built for another method, or has an empty route is re-routed; nothing else of
it is touched. -/
theorem C17_route_set_unconditionally (pkg svc m : Bytes) (r r' : Req) :
    (clientStamp pkg svc m r).route = (clientStamp pkg svc m r').route ∧
    (clientStamp pkg svc m r).route = serverPathGen pkg svc m ∧
    (clientStamp pkg svc m r).headers = r.headers ∧ (clientStamp pkg svc m r).body = r.body := ⟨rfl, rfl, rfl, rfl⟩

/-- **The typed-call plumbing the model describes is the one in the source** (shapes recognised on this
run): an error status becomes a response carrying its code, ALL its headers and (if any) its message
under `status-message`, and is rebuilt from exactly those on the client; the client encodes, calls, turns
every non-success status into that error, and decodes a success body with the method's codec (a body the
codec rejects is an error, never a success); the server decodes (a rejected body is answered with an
error status without calling the handler), calls the handler once, and encodes its answer; the JSON
codec is `serde_json::from_slice` (rejects trailing input), the bincode codec `bincode::deserialize`. -/
theorem C17_rpc_plumbing_is_translated : Gen.rpcShapeChecked = true := rfl

end Anemo
