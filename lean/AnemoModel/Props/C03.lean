/-
C03 — Dialing with an expected identity only ever reaches that identity.
Pin logic over the symbolic TLS model, plus the ordering of the post-TLS ack protocol: the listener
registers the dialer only after the dialer consumed the ack, and the dialer's connect() reports
success only after it registered the listener.
-/
import AnemoModel.Props.C01
import AnemoModel.Props.C14
namespace Anemo

/-- a dial naming the identity it expects succeeds only with exactly that identity ... -/
theorem C03_pin_sound (own : List Name) (X : Key) (dialed : Name) (c : Cert) (hs : HsSig) (k : Key)
    (h : clientAccepts own (some X) dialed c hs = some k) : k = X := by
  obtain ⟨hpin, _, _, _, _, hk⟩ := clientAccepts_eq_some_iff.mp h
  exact hk.symm.trans (pinOk_some_iff.mp hpin).2.2

/-- ... and only if the endpoint reached holds that identity's private key (an impostor replaying the
expected certificate, or presenting any certificate it can assemble, fails) -/
theorem C03_reaches_key_holder (A : List Key) (own : List Name) (X : Key) (dialed : Name) (c : Cert) (hs : HsSig) (k : Key)
    (hs_adv : advSig A hs) (h : clientAccepts own (some X) dialed c hs = some k) : X ∈ A :=
  C03_pin_sound own X dialed c hs k h ▸ C01_no_impersonation_client A own (some X) dialed c hs k hs_adv h

/-- any successful dial (pinned or not) returns the identity of the party actually reached -/
theorem C03_returns_party_reached (own : List Name) (pin? : Option Key) (dialed : Name) (c : Cert) (hs : HsSig) (k : Key)
    (h : clientAccepts own pin? dialed c hs = some k) : hs.signer = k :=
  (C01_attribution_client own pin? dialed c hs k h).2.2.1

/-- a mismatching certificate key is refused before anything else is looked at -/
theorem C03_mismatch_refused (own : List Name) (X : Key) (dialed : Name) (c : Cert) (hs : HsSig) (h : c.spki ≠ X) :
    clientAccepts own (some X) dialed c hs = none :=
  Option.eq_none_iff_forall_ne_some.mpr fun _ hk =>
    h (pinOk_some_iff.mp (clientAccepts_eq_some_iff.mp hk).1).2.2

/-! ### ordering of the ack protocol -/

/-- on a pin mismatch the dialer aborts inside TLS: the listener's handshake never completes and
neither side ever registers, announces or serves the other because of this dial -/
theorem C03_no_side_effects_on_mismatch (run : List DialEv) (h : validRun false [] run = true) :
    DialEv.lTls ∉ run ∧ DialEv.lRegister ∉ run ∧ DialEv.dRegister ∉ run ∧ DialEv.dReply ∉ run := by
  rw [validRun_false_nil run h]
  exact ⟨List.not_mem_nil, List.not_mem_nil, List.not_mem_nil, List.not_mem_nil⟩

/-- in every run the listener registers the dialer only after the dialer has consumed the ack
(so a dialer that rejects the listener is never listed by it) -/
theorem C03_listener_registers_after_dialer (pinOk : Bool) (l1 l2 : List DialEv)
    (h : validRun pinOk [] (l1 ++ DialEv.lRegister :: l2) = true) : DialEv.dReadAck ∈ l1 := by
  have h1 : DialEv.lStopped ∈ l1 := validRun_requires pinOk [] l1 l2 .lRegister h .lStopped List.mem_cons_self
  obtain ⟨a, b, rfl⟩ := List.append_of_mem h1
  rw [List.append_assoc] at h
  exact List.mem_append_left _ (validRun_requires pinOk [] a _ .lStopped h .dReadAck List.mem_cons_self)

/-- a successful dial returns only after the party is in the caller's connected set -/
theorem C03_result_in_set (pinOk : Bool) (l1 l2 : List DialEv)
    (h : validRun pinOk [] (l1 ++ DialEv.dReply :: l2) = true) : DialEv.dRegister ∈ l1 :=
  validRun_requires pinOk [] l1 l2 .dReply h .dRegister List.mem_cons_self

/-! non-vacuity: the honest run is valid; the mismatch run stops before anything is registered -/
example : validRun true [] [.dTls, .lTls, .lAdmit, .lSendAck, .dReadAck, .dRegister, .dReply, .lStopped, .lRegister] = true := by decide
example : validRun false [] [.dTls] = false := by decide


/-- **The symbolic verifiers are the translation of the source**: the conjunction of what the statements
of `verify_client_cert`, `verify_server_cert` and the pinned `verify_server_cert` demand (read off
crypto.rs on this run, in order) is exactly what `serverAccepts` / `clientAccepts` demand of a
certificate; the three handshake-signature checks delegate to rustls with Ed25519 as the only scheme,
client authentication is offered and mandatory, the end-entity certificate is its own trust anchor,
and the identity is the Ed25519 key of its SubjectPublicKeyInfo (shapes recognised: `tlsShapeChecked`). -/
theorem C03_verifiers_are_translated (names : List Name) (dialed : Name) (p : Key) (c : Cert) :
    verifyClientCertGen names c = (certOk c && names.any (validFor c)) ∧
    verifyServerCertGen names dialed c = (names.contains dialed && certOk c && validFor c dialed) ∧
    verifyPinnedServerCertGen names dialed p c = (pinOk (some p) c && names.contains dialed && certOk c && validFor c dialed) ∧
    Gen.tlsShapeChecked = true :=
  ⟨verifyClientCertGen_eq names c, verifyServerCertGen_eq names dialed c,
    verifyPinnedServerCertGen_eq names dialed p c, rfl⟩

/-- **The dial path and the pinned client configuration are the ones the event-order model was written for** (word for word, checked on this run): `dial_peer_task` (connect with the pinned configuration when an identity is named, then the acknowledgement), `handle_connecting_result` (register, then answer the caller with the connection's identity; answer the error otherwise), `add_peer`, and `client_config_with_expected_server_identity` (a fresh configuration per dial whose verifier carries the named identity). -/
theorem C03_dial_path_is_pinned : Gen.dialingShapeChecked = true ∧ Gen.tlsConfigShapeChecked = true := ⟨rfl, rfl⟩

/-- **A pinned dial is the plain dial gated by the key, nothing more, nothing less**: against an honest
listener holding `kl`, dialling with expected identity `X` gives exactly what the un-pinned dial gives
when `X = kl`, and fails when `X ≠ kl` - the pin neither admits anything the plain dial refuses nor
refuses the right party (so `C03_pin_sound` is not vacuous: the right party IS reached). -/
theorem C03_pin_iff (d l : EndpointNames) (kd kl X : Key) :
    honestConnect d kd l kl (some X) = if X = kl then honestConnect d kd l kl none else none := by
  rw [honestConnect_eq, honestConnect_eq, Option.all_some]
  by_cases hx : X = kl
  · rw [if_pos hx, hx, beq_self_eq_true]
    rfl
  · rw [if_neg hx, beq_eq_false_iff_ne.mpr (Ne.symm hx), Bool.and_false]
    rfl

/-- the identities a successful pinned dial produces: the dialer gets `X` itself, the listener the dialer's key -/
theorem C03_pinned_result (d l : EndpointNames) (kd kl X : Key) (r : Key × Key)
    (h : honestConnect d kd l kl (some X) = some r) : X = kl ∧ r = (kd, X) := by
  rw [C03_pin_iff] at h
  obtain ⟨rfl, h⟩ := Option.ite_none_right_eq_some.mp h
  exact ⟨rfl, C14_connect_ids d l kd X r h⟩

example : honestConnect ⟨[0x61], none⟩ 1 ⟨[0x61], none⟩ 2 (some 2) = some (1, 2) ∧
    honestConnect ⟨[0x61], none⟩ 1 ⟨[0x61], none⟩ 2 (some 3) = none := by decide
end Anemo
