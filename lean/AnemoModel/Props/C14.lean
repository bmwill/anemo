/-
C14 — Networks with different names never connect.
Names are DNS names: matching a name against a certificate is ASCII-case-insensitive (webpki), which
the model states explicitly (`dnsEq`); "different networks" therefore means names that differ as DNS
names.  Cryptography/TLS trusted as in C01.
-/
import AnemoModel.Props.C01
namespace Anemo

/-- **Whatever the dialer is** (honest or not, any certificate, any handshake signature): if the
listener admits it, the name in its hello is one the listener accepts AND its certificate is valid
for a name the listener accepts - both, so claiming one network while holding a certificate for
another never gets in. -/
theorem C14_admitted_dialer_is_in_network (accepted : List Name) (sni : Name) (c? : Option Cert) (hs : HsSig) (k : Key)
    (h : serverAccepts accepted sni c? hs = some k) :
    accepted.any (dnsEq sni) = true ∧ ∃ c, c? = some c ∧ accepted.any (validFor c) = true ∧ certOk c = true := by
  cases c? with
  | none => cases h
  | some c =>
    obtain ⟨hsni, hcert, hname, _⟩ := serverAccepts_some_eq_some_iff.mp h
    exact ⟨hsni, c, rfl, hname, hcert⟩

/-- **Whatever the listener is**: a dialer completes a connection only with a certificate valid for
the name it dialled, and that name is its own; with `connect_with_client_config` dialling the primary
name (`C14_names_are_pinned`) the party reached holds a certificate for the dialer's own network. -/
theorem C14_reached_listener_is_in_network (own : List Name) (pin? : Option Key) (dialed : Name) (c : Cert) (hs : HsSig) (k : Key)
    (h : clientAccepts own pin? dialed c hs = some k) :
    own.contains dialed = true ∧ validFor c dialed = true ∧ certOk c = true := by
  obtain ⟨_, hown, hcert, hname, _⟩ := clientAccepts_eq_some_iff.mp h
  exact ⟨hown, hname, hcert⟩

/-- a peer that claims an accepted network name in the TLS hello (SNI) while presenting a certificate
issued for a name the listener does not accept is rejected, whatever it claims -/
theorem C14_cert_name_checked (accepted : List Name) (sni : Name) (c : Cert) (hs : HsSig)
    (h : accepted.any (validFor c) = false) : serverAccepts accepted sni (some c) hs = none :=
  Option.eq_none_iff_forall_ne_some.mpr fun _ hk =>
    ne_true_of_eq_false h (serverAccepts_some_eq_some_iff.mp hk).2.2.1

/-- an unknown network name in the hello is rejected whatever certificate follows -/
theorem C14_sni_checked (accepted : List Name) (sni : Name) (c? : Option Cert) (hs : HsSig)
    (h : accepted.any (dnsEq sni) = false) : serverAccepts accepted sni c? hs = none :=
  Option.eq_none_iff_forall_ne_some.mpr fun k hk =>
    ne_true_of_eq_false h (C14_admitted_dialer_is_in_network accepted sni c? hs k hk).1

/-- the dialer accepts a server certificate only for the name it dialled, which must be its own name -/
theorem C14_dialer_checks_name (own : List Name) (pin? : Option Key) (dialed : Name) (c : Cert) (hs : HsSig)
    (h : own.contains dialed = false ∨ validFor c dialed = false) : clientAccepts own pin? dialed c hs = none := by
  refine Option.eq_none_iff_forall_ne_some.mpr fun k hk => ?_
  obtain ⟨hown, hname, _⟩ := C14_reached_listener_is_in_network own pin? dialed c hs k hk
  exact h.elim (ne_true_of_eq_false · hown) (ne_true_of_eq_false · hname)

/-- two honest endpoints connect exactly when the dialer's primary name is one the listener accepts
(its primary or alternate name), whatever their keys -/
theorem C14_connect_iff (d l : EndpointNames) (kd kl : Key) :
    (honestConnect d kd l kl none).isSome = l.accepted.any (dnsEq d.primary) := by
  rw [honestConnect_eq]
  cases l.accepted.any (dnsEq d.primary) <;> rfl

/-- and then each side attributes the other's key -/
theorem C14_connect_ids (d l : EndpointNames) (kd kl : Key) (r : Key × Key)
    (h : honestConnect d kd l kl none = some r) : r = (kd, kl) := by
  rw [honestConnect_eq, Option.ite_none_right_eq_some] at h
  exact (Option.some.inj h.2).symm

/-- endpoints configured for different networks never connect, in either direction -/
theorem C14_disjoint_never (a b : EndpointNames) (ka kb : Key) (pa pb : Option Key)
    (hab : b.accepted.any (dnsEq a.primary) = false) (hba : a.accepted.any (dnsEq b.primary) = false) :
    honestConnect a ka b kb pa = none ∧ honestConnect b kb a ka pb = none := by
  rw [honestConnect_eq, honestConnect_eq, hab, hba]
  exact ⟨rfl, rfl⟩

/-! non-vacuity -/
example : (honestConnect ⟨[0x61], none⟩ 1 ⟨[0x62], some [0x41]⟩ 2 none) = some (1, 2) ∧
    (honestConnect ⟨[0x62], some [0x61]⟩ 2 ⟨[0x61], none⟩ 1 none) = none := by decide

theorem dnsEq_trans (a b c : Name) (h1 : dnsEq a b = true) (h2 : dnsEq b c = true) : dnsEq a c = true :=
  dnsEq_iff.mpr ((dnsEq_iff.mp h1).trans (dnsEq_iff.mp h2))

theorem connect_single_name (d : EndpointNames) (kd : Key) (b : Name) (kb : Key) :
    (honestConnect d kd ⟨b, none⟩ kb none).isSome = dnsEq d.primary b := by
  rw [C14_connect_iff]
  exact Bool.or_false _

/-- endpoints with a single name each: "can connect" is symmetric ... -/
theorem C14_single_name_symmetric (a b : Name) (ka kb : Key) :
    (honestConnect ⟨a, none⟩ ka ⟨b, none⟩ kb none).isSome = (honestConnect ⟨b, none⟩ kb ⟨a, none⟩ ka none).isSome := by
  rw [connect_single_name, connect_single_name, dnsEq_symm]

/-- ... and transitive, so single-name networks PARTITION the endpoints: the classes are the DNS
names, and no connection ever crosses two classes (in a population of any size) -/
theorem C14_single_name_partition (a b c : Name) (ka kb kc : Key)
    (hab : (honestConnect ⟨a, none⟩ ka ⟨b, none⟩ kb none).isSome = true)
    (hbc : (honestConnect ⟨b, none⟩ kb ⟨c, none⟩ kc none).isSome = true) :
    (honestConnect ⟨a, none⟩ ka ⟨c, none⟩ kc none).isSome = true := by
  rw [connect_single_name] at *
  exact dnsEq_trans a b c hab hbc

/-- the alternate name opens exactly ONE direction: a listener with alternate name `x` admits dialers
of network `x`, but itself still dials as its primary network only -/
theorem C14_alternate_is_inbound_only (p x : Name) (kd kl : Key) (h : dnsEq x p = false) :
    (honestConnect ⟨x, none⟩ kd ⟨p, some x⟩ kl none).isSome = true ∧
    (honestConnect ⟨p, some x⟩ kl ⟨x, none⟩ kd none).isSome = false := by
  rw [C14_connect_iff, connect_single_name]
  exact ⟨List.any_eq_true.mpr ⟨x, List.mem_cons_of_mem _ List.mem_cons_self, dnsEq_refl x⟩,
    (dnsEq_symm p x).trans h⟩

example : (honestConnect ⟨[0x61], none⟩ 1 ⟨[0x41], none⟩ 2 none).isSome = true := by decide

/-- **The symbolic verifiers are the translation of the source**: the conjunction of what the statements
of `verify_client_cert`, `verify_server_cert` and the pinned `verify_server_cert` demand (read off
crypto.rs on this run, in order) is exactly what `serverAccepts` / `clientAccepts` demand of a
certificate; the three handshake-signature checks delegate to rustls with Ed25519 as the only scheme,
client authentication is offered and mandatory, the end-entity certificate is its own trust anchor,
and the identity is the Ed25519 key of its SubjectPublicKeyInfo (shapes recognised: `tlsShapeChecked`). -/
theorem C14_verifiers_are_translated (names : List Name) (dialed : Name) (p : Key) (c : Cert) :
    verifyClientCertGen names c = (certOk c && names.any (validFor c)) ∧
    verifyServerCertGen names dialed c = (names.contains dialed && certOk c && validFor c dialed) ∧
    verifyPinnedServerCertGen names dialed p c = (pinOk (some p) c && names.contains dialed && certOk c && validFor c dialed) ∧
    Gen.tlsShapeChecked = true :=
  ⟨verifyClientCertGen_eq names c, verifyServerCertGen_eq names dialed c,
    verifyPinnedServerCertGen_eq names dialed p c, rfl⟩

/-- **Names are wired as the model says** (word for word, checked on this run): `build` makes one certificate per name (primary first, then the alternate), the verifier accepts exactly those names, the server resolves its certificate by SNI among exactly those names (no fallback), the client configurations present the PRIMARY certificate, and `connect_with_client_config` dials with the primary name. -/
theorem C14_names_are_pinned : Gen.tlsConfigShapeChecked = true ∧ Gen.endpointShapeChecked = true := ⟨rfl, rfl⟩

end Anemo
