/-
C04 — At most one connection per peer; events are an exact change log.
Theorems over every operation sequence (any length, any peers) of the active-peer set model, under
the explicit domain guard that the connections offered to `add` are pairwise distinct and new
(`FreshOps`: a connection object is registered at most once -- the connection manager adds each
handshake result exactly once).  Subscribers are assumed not to lag behind the broadcast channel
capacity (a lagging receiver gets `Lagged(n)` instead of events; stated, not modelled).
-/
import AnemoModel.Lemmas.Peers
import AnemoModel.PeersGen
namespace Anemo
open Gen

/-- the hand-written tie-break is the one regenerated from the source on every run -/
theorem C04_tiebreak_is_source (own remote : PeerId) (e n : Origin) :
    tieBreak own remote e n = tieBreakGen own remote e n := by
  cases e <;> cases n <;> rfl

def FreshOps (s : Active) (ops : List Op) : Prop :=
  (addedIds ops).Nodup ∧ ∀ i ∈ addedIds ops, i ∉ s.added

theorem Active.step_inv (own : PeerId) (s : Active) (op : Op) (h : s.Inv) (hf : FreshOps s [op]) :
    (s.step own op).Inv := by
  cases op with
  | add c => exact Active.add_inv own c s h (hf.2 c.id (List.mem_singleton_self _))
  | remove p r => exact Active.remove_inv p r s h
  | removeStable p id r => exact Active.removeStable_inv p id r s h

/-- of a fresh history the first part is fresh, and the rest is fresh for the state reached -/
theorem freshOps_append (own : PeerId) (s : Active) (l₁ l₂ : List Op) (hf : FreshOps s (l₁ ++ l₂)) :
    FreshOps s l₁ ∧ FreshOps (s.run own l₁) l₂ := by
  simp only [FreshOps, addedIds_append, added_run, List.nodup_append, List.mem_append, not_or] at hf ⊢
  obtain ⟨⟨h₁, h₂, hd⟩, hnew⟩ := hf
  exact ⟨⟨h₁, fun i hi => hnew i (.inl hi)⟩, h₂, fun i hi => ⟨hnew i (.inr hi), fun hi' => hd i hi' i hi rfl⟩⟩

/-- the invariant holds in every reachable state -/
theorem C04_inv_run (own : PeerId) (s : Active) (ops : List Op) (h : s.Inv) (hf : FreshOps s ops) :
    (s.run own ops).Inv := by
  induction ops generalizing s with
  | nil => exact h
  | cons op t ih =>
    obtain ⟨hf₁, hf₂⟩ := freshOps_append own s [op] t hf
    exact ih _ (Active.step_inv own s op h hf₁) hf₂

/-- at most one connection per remote identity: the listing has no duplicates -/
theorem C04_unique (own : PeerId) (ops : List Op) (hf : FreshOps {} ops) :
    (({} : Active).run own ops).peers.Nodup :=
  (C04_inv_run own {} ops Active.inv_init hf).nodup

/-- no listed peer's connection has been closed by the set -/
theorem C04_no_closed_listed (own : PeerId) (ops : List Op) (hf : FreshOps {} ops) :
    ∀ e ∈ (({} : Active).run own ops).conns, e.2.id ∉ (({} : Active).run own ops).closed :=
  (C04_inv_run own {} ops Active.inv_init hf).notClosed

/-- every connection ever offered is either the one listed for its peer or has been closed: nothing leaks -/
theorem C04_no_leak (own : PeerId) (ops : List Op) (hf : FreshOps {} ops) :
    ∀ i ∈ addedIds ops, i ∈ (({} : Active).run own ops).closed ∨
      ∃ e ∈ (({} : Active).run own ops).conns, e.2.id = i := by
  intro i hi
  refine (C04_inv_run own {} ops Active.inv_init hf).noLeak i ?_
  rw [added_run]
  exact List.mem_append_right _ hi

/-- an entry is stored under its own peer id -/
theorem C04_keyed (own : PeerId) (ops : List Op) (hf : FreshOps {} ops) :
    ∀ e ∈ (({} : Active).run own ops).conns, e.2.peer = e.1 :=
  (C04_inv_run own {} ops Active.inv_init hf).keyed

/-- each operation is one atomic step whose emitted events are exactly the change it made:
the log only grows, and replaying the new events over the old listing gives the new listing -/
theorem C04_atomic (own : PeerId) (s : Active) (op : Op) (h : s.Inv) (hf : FreshOps s [op]) :
    ∃ ev, (s.step own op).log = s.log ++ ev ∧ replayStrict s.peers ev = some (s.step own op).peers :=
  changeLog_step own s op

/-- exact change log: the listing at ANY earlier point (a subscription's snapshot) plus all the
events emitted since reproduces the current listing, and the replay never meets a NewPeer of a
listed peer or a LostPeer of an unlisted one -/
theorem C04_changelog (own : PeerId) (s : Active) (ops : List Op) (h : s.Inv) (hf : FreshOps s ops) :
    ∃ ev, (s.run own ops).log = s.log ++ ev ∧ replayStrict s.peers ev = some (s.run own ops).peers :=
  changeLog_run own s ops

/-- the same, phrased for a subscriber that joined after `ops1` -/
theorem C04_snapshot_plus_events (own : PeerId) (ops1 ops2 : List Op) (hf : FreshOps {} (ops1 ++ ops2)) :
    let s1 := ({} : Active).run own ops1
    let s2 := ({} : Active).run own (ops1 ++ ops2)
    replayStrict s1.peers (s2.log.drop s1.log.length) = some s2.peers := by
  obtain ⟨ev, hl, hr⟩ := changeLog_run own (({} : Active).run own ops1) ops2
  simp only
  rw [Active.run_append, hl, List.drop_left]
  exact hr

/-- strict alternation per peer, spelled out: reading a peer's events in order, NewPeer comes only
when the peer is absent and LostPeer only when it is present -/
def alternates (p : PeerId) : Bool → List Event → Bool
  | _, [] => true
  | present, .newPeer q :: es => if q = p then (!present && alternates p true es) else alternates p present es
  | present, .lostPeer q _ :: es => if q = p then (present && alternates p false es) else alternates p present es

theorem alternates_of_replay (p : PeerId) (l l' : List PeerId) (es : List Event)
    (h : replayStrict l es = some l') : alternates p (decide (p ∈ l)) es = true := by
  fun_induction replayStrict l es with
  | case1 => rfl
  | case2 l q es hq => cases h
  | case3 l q es hq ih =>
    have := ih h
    by_cases hqp : q = p
    · subst hqp; simpa [alternates, hq] using this
    · simpa [alternates, hqp, Ne.symm hqp] using this
  | case4 l q r es hq ih =>
    have := ih h
    by_cases hqp : q = p
    · subst hqp; simpa [alternates, hq] using this
    · simpa [alternates, hqp, Ne.symm hqp] using this
  | case5 l q r es hq => cases h

theorem C04_alternation (own : PeerId) (ops : List Op) (hf : FreshOps {} ops) (p : PeerId) :
    alternates p false (({} : Active).run own ops).log = true := by
  obtain ⟨ev, hl, hr⟩ := changeLog_run own {} ops
  have : (({} : Active).run own ops).log = ev := by simpa using hl
  rw [this]
  simpa [Active.peers] using alternates_of_replay p [] _ ev (by simpa [Active.peers] using hr)

/-- the end of an older, replaced connection never removes or disturbs its replacement -/
theorem C04_stale_exit_ignored (s : Active) (p : PeerId) (c : Conn) (id : Nat) (r : Reason)
    (hl : lookupConn s.conns p = some c) (hne : c.id ≠ id) : s.removeStable p id r = s := by
  unfold Active.removeStable
  rw [hl]
  exact if_neg hne

theorem C04_exit_of_unlisted_ignored (s : Active) (p : PeerId) (id : Nat) (r : Reason)
    (hl : lookupConn s.conns p = none) : s.removeStable p id r = s := by
  unfold Active.removeStable
  rw [hl]

/-- a replacement closes exactly the old connection and announces Lost then New -/
theorem C04_replace (own : PeerId) (s : Active) (c old : Conn)
    (hl : lookupConn s.conns c.peer = some old) (ht : tieBreak own c.peer old.origin c.origin = true) :
    (s.add own c).2 = true ∧ (s.add own c).1.closed = s.closed ++ [old.id] ∧
    (s.add own c).1.log = s.log ++ [.lostPeer c.peer .requested, .newPeer c.peer] ∧
    lookupConn (s.add own c).1.conns c.peer = some c := by
  rw [add_replace own s c old hl ht]
  exact ⟨rfl, rfl, rfl, lookupConn_append_self _ _ _ (lookupConn_erase_self _ _)⟩

/-- losing the tie-break closes the new connection and changes nothing else that is visible -/
theorem C04_reject_new (own : PeerId) (s : Active) (c old : Conn)
    (hl : lookupConn s.conns c.peer = some old) (ht : tieBreak own c.peer old.origin c.origin = false) :
    (s.add own c).2 = false ∧ (s.add own c).1.conns = s.conns ∧ (s.add own c).1.log = s.log ∧
    (s.add own c).1.closed = s.closed ++ [c.id] := by
  rw [add_drop own s c old hl ht]
  exact ⟨rfl, rfl, rfl, rfl⟩

/-! ### non-vacuity: a concrete history with a replacement, a stale exit, a disconnect -/
def exOps : List Op :=
  [.add ⟨1, 7, .inbound⟩, .add ⟨2, 9, .outbound⟩, .add ⟨3, 7, .inbound⟩, .removeStable 7 1 .applicationClosed,
   .remove 9 .requested, .add ⟨4, 9, .inbound⟩]

example : FreshOps {} exOps := ⟨by decide, by decide⟩
example : (({} : Active).run 5 exOps).peers = [7, 9] ∧ (({} : Active).run 5 exOps).closed = [1, 2] ∧
    (({} : Active).run 5 exOps).log =
      [.newPeer 7, .newPeer 9, .lostPeer 7 .requested, .newPeer 7, .lostPeer 9 .requested, .newPeer 9] := by decide


/-- **The model of `add` is the translation of the source**: running the effect lists that the
translator read off the arms of `ActivePeersInner::add` (with the translated tie-break) gives exactly
the hand-written `Active.add` - same entries, same events in the same order, same closed connections,
same result.  All theorems of C04, C05, C09 and C10 about `add` are therefore about the code as it is. -/
theorem C04_add_is_translated (own : PeerId) (c : Conn) (s : Active) :
    s.addGen own c = ((s.add own c).1, some (s.add own c).2) := by
  cases hl : lookupConn s.conns c.peer with
  | none =>
    rw [add_none own s c hl]
    simp [Active.addGen, hl, runAddEffs, Gen.addVacantEffs, Gen.addTailEffs, eraseConn_none _ _ hl]
  | some old =>
    simp only [Active.addGen, hl, ← C04_tiebreak_is_source]
    cases ht : tieBreak own c.peer old.origin c.origin with
    | true => rw [add_replace own s c old hl ht]; simp [runAddEffs, Gen.addWinEffs, Gen.addTailEffs]
    | false => rw [add_drop own s c old hl ht]; simp [runAddEffs, Gen.addLoseEffs, Gen.addTailEffs]

/-- the shapes of `remove`, `remove_with_stable_id`, `subscribe` (one lock), the handler's exit (deregister by
stable id, before the tear-down of in-flight requests) and `try_peer_id` (first certificate) were recognised
by the translator on this run -/
theorem C04_registry_shape_checked : Gen.registryShapeChecked = true := rfl

/-- **The registry is keyed by the 32-byte identity** with the derived equality, hash and order of `PeerId`
(checked on this run): the model's `PeerId := Nat` read big-endian has the same equality and order. -/
theorem C04_identity_is_pinned : Gen.peerIdShapeChecked = true := rfl

end Anemo
