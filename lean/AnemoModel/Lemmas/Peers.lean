import AnemoModel.Peers
import AnemoModel.Lemmas.List
namespace Anemo

/-! ## association-list facts -/

theorem lookupConn_none_iff (l : List (PeerId × Conn)) (p : PeerId) :
    lookupConn l p = none ↔ p ∉ l.map (·.1) := by
  fun_induction lookupConn l p with
  | case1 => simp
  | case2 c t => simp
  | case3 q c t h ih => rw [ih, List.map_cons, List.mem_cons, not_or, and_iff_right (Ne.symm h)]

theorem lookupConn_some_mem (l : List (PeerId × Conn)) (p : PeerId) (c : Conn)
    (h : lookupConn l p = some c) : (p, c) ∈ l := by
  fun_induction lookupConn l p with
  | case1 => cases h
  | case2 c' t => cases h; exact List.mem_cons_self
  | case3 q c' t hq ih => exact List.mem_cons_of_mem _ (ih h)

theorem lookupConn_of_mem_nodup (l : List (PeerId × Conn)) (p : PeerId) (c : Conn)
    (hnd : (l.map (·.1)).Nodup) (h : (p, c) ∈ l) : lookupConn l p = some c := by
  fun_induction lookupConn l p with
  | case1 => cases h
  | case2 c' t =>
    rcases List.mem_cons.mp h with heq | hm
    · cases heq; rfl
    · exact absurd (List.mem_map.mpr ⟨(p, c), hm, rfl⟩) (List.nodup_cons.mp hnd).1
  | case3 q c' t hq ih =>
    rcases List.mem_cons.mp h with heq | hm
    · cases heq; exact absurd rfl hq
    · exact ih (List.nodup_cons.mp hnd).2 hm

theorem lookupConn_append (l m : List (PeerId × Conn)) (q : PeerId) :
    lookupConn (l ++ m) q = (lookupConn l q).or (lookupConn m q) := by
  fun_induction lookupConn l q with
  | case1 => rfl
  | case2 c t => simp [lookupConn]
  | case3 p c t h ih => simp [lookupConn, h, ih]

theorem lookupConn_append_self (l : List (PeerId × Conn)) (p : PeerId) (c : Conn) (h : lookupConn l p = none) :
    lookupConn (l ++ [(p, c)]) p = some c := by
  simp [lookupConn_append, lookupConn, h]

theorem lookupConn_append_ne (l : List (PeerId × Conn)) (p q : PeerId) (c : Conn) (h : p ≠ q) :
    lookupConn (l ++ [(p, c)]) q = lookupConn l q := by
  simp [lookupConn_append, lookupConn, h]

theorem mem_eraseConn (l : List (PeerId × Conn)) (p : PeerId) (e : PeerId × Conn) :
    e ∈ eraseConn l p ↔ e ∈ l ∧ e.1 ≠ p := by
  simp [eraseConn]

theorem keys_eraseConn (l : List (PeerId × Conn)) (p : PeerId) :
    (eraseConn l p).map (·.1) = (l.map (·.1)).filter (· ≠ p) := by
  rw [List.filter_map]
  rfl

theorem eraseConn_cons (q : PeerId) (c : Conn) (t : List (PeerId × Conn)) (p : PeerId) :
    eraseConn ((q, c) :: t) p = if q = p then eraseConn t p else (q, c) :: eraseConn t p := by
  by_cases h : q = p <;> simp [eraseConn, h]

theorem eraseConn_none (l : List (PeerId × Conn)) (p : PeerId) (h : lookupConn l p = none) : eraseConn l p = l := by
  rw [lookupConn_none_iff] at h
  refine List.filter_eq_self.mpr fun e he => decide_eq_true fun heq => h ?_
  exact List.mem_map.mpr ⟨e, he, heq⟩

theorem lookupConn_erase_self (l : List (PeerId × Conn)) (p : PeerId) :
    lookupConn (eraseConn l p) p = none :=
  (lookupConn_none_iff _ _).mpr fun h => by
    obtain ⟨e, he, rfl⟩ := List.mem_map.mp h
    exact ((mem_eraseConn _ _ _).mp he).2 rfl

theorem lookupConn_erase_ne (l : List (PeerId × Conn)) (p q : PeerId) (h : p ≠ q) :
    lookupConn (eraseConn l p) q = lookupConn l q := by
  fun_induction lookupConn l q with
  | case1 => rfl
  | case2 c t => rw [eraseConn_cons, if_neg (Ne.symm h)]; simp [lookupConn]
  | case3 r c t hr ih =>
    rw [eraseConn_cons]
    split
    · exact ih
    · simpa [lookupConn, hr] using ih

/-! ## the operations, case by case -/

theorem add_none (own : PeerId) (s : Active) (c : Conn) (hl : lookupConn s.conns c.peer = none) :
    s.add own c = ({ s with conns := s.conns ++ [(c.peer, c)], log := s.log ++ [.newPeer c.peer], added := s.added ++ [c.id] }, true) := by
  simp only [Active.add, hl]

theorem add_replace (own : PeerId) (s : Active) (c old : Conn) (hl : lookupConn s.conns c.peer = some old)
    (ht : tieBreak own c.peer old.origin c.origin = true) :
    s.add own c = ({ conns := eraseConn s.conns c.peer ++ [(c.peer, c)],
                     log := s.log ++ [.lostPeer c.peer .requested, .newPeer c.peer],
                     closed := s.closed ++ [old.id], added := s.added ++ [c.id] }, true) := by
  simp only [Active.add, hl, ht, if_true]

theorem add_drop (own : PeerId) (s : Active) (c old : Conn) (hl : lookupConn s.conns c.peer = some old)
    (ht : tieBreak own c.peer old.origin c.origin = false) :
    s.add own c = ({ s with closed := s.closed ++ [c.id], added := s.added ++ [c.id] }, false) := by
  simp only [Active.add, hl, ht, Bool.false_eq_true, if_false]

theorem add_added (own : PeerId) (s : Active) (c : Conn) : (s.add own c).1.added = s.added ++ [c.id] := by
  unfold Active.add
  split
  · rfl
  · split <;> rfl

theorem remove_none (s : Active) (p : PeerId) (r : Reason) (hl : lookupConn s.conns p = none) : s.remove p r = s := by
  simp only [Active.remove, hl]

theorem remove_some (s : Active) (p : PeerId) (r : Reason) (c : Conn) (hl : lookupConn s.conns p = some c) :
    s.remove p r = { s with conns := eraseConn s.conns p, log := s.log ++ [.lostPeer p r], closed := s.closed ++ [c.id] } := by
  simp only [Active.remove, hl]

theorem remove_conns (s : Active) (p : PeerId) (r : Reason) : (s.remove p r).conns = eraseConn s.conns p := by
  cases hl : lookupConn s.conns p with
  | none => rw [remove_none s p r hl, eraseConn_none _ _ hl]
  | some c => rw [remove_some s p r c hl]

theorem remove_lookup_self (s : Active) (p : PeerId) (r : Reason) : lookupConn (s.remove p r).conns p = none := by
  rw [remove_conns, lookupConn_erase_self]

theorem remove_lookup_ne (s : Active) (p q : PeerId) (r : Reason) (h : p ≠ q) :
    lookupConn (s.remove p r).conns q = lookupConn s.conns q := by
  rw [remove_conns, lookupConn_erase_ne _ _ _ h]

theorem remove_added (s : Active) (p : PeerId) (r : Reason) : (s.remove p r).added = s.added := by
  unfold Active.remove
  split <;> rfl

theorem mem_closed_remove (s : Active) (p : PeerId) (r : Reason) (i : Nat) (h : i ∈ s.closed) :
    i ∈ (s.remove p r).closed := by
  unfold Active.remove
  split
  · exact h
  · exact List.mem_append_left _ h

theorem remove_closes (s : Active) (p : PeerId) (r : Reason) (c : Conn) (hl : lookupConn s.conns p = some c) :
    c.id ∈ (s.remove p r).closed := by
  rw [remove_some s p r c hl]
  exact List.mem_concat_self

/-- `remove_with_stable_id` is `remove` when the listed connection is the one named, and nothing otherwise -/
theorem removeStable_eq (s : Active) (p : PeerId) (id : Nat) (r : Reason) :
    s.removeStable p id r = if (lookupConn s.conns p).map (·.id) = some id then s.remove p r else s := by
  unfold Active.removeStable
  cases lookupConn s.conns p <;> simp

/-- a replacing `add` is a `remove` (reason `Requested`) followed by an `add` that finds the peer unlisted -/
theorem add_replace_eq (own : PeerId) (s : Active) (c old : Conn) (hl : lookupConn s.conns c.peer = some old)
    (ht : tieBreak own c.peer old.origin c.origin = true) :
    s.add own c = (s.remove c.peer .requested).add own c := by
  rw [add_replace own s c old hl ht, add_none own _ c (remove_lookup_self s _ _), remove_some s _ _ old hl,
    List.append_assoc]
  rfl

/-! ## replay -/

theorem replayStrict_append (l : List PeerId) (e1 e2 : List Event) :
    replayStrict l (e1 ++ e2) = (replayStrict l e1).bind (fun l' => replayStrict l' e2) := by
  fun_induction replayStrict l e1 with
  | case1 => rfl
  | case2 l p es h => simp [replayStrict, h]
  | case3 l p es h ih => simpa [replayStrict, h] using ih
  | case4 l p r es h ih => simpa [replayStrict, h] using ih
  | case5 l p r es h => simp [replayStrict, h]

/-! ## the change log

What the set logs between two states, replayed over the listing of the first, gives the listing of the second.
This holds of every operation in every state: it needs neither the invariant nor fresh connections. -/

def ChangeLog (s s' : Active) : Prop :=
  ∃ ev, s'.log = s.log ++ ev ∧ replayStrict s.peers ev = some s'.peers

theorem ChangeLog.refl (s : Active) : ChangeLog s s :=
  ⟨[], (List.append_nil _).symm, rfl⟩

theorem ChangeLog.trans {s₁ s₂ s₃ : Active} (h₁ : ChangeLog s₁ s₂) (h₂ : ChangeLog s₂ s₃) : ChangeLog s₁ s₃ := by
  obtain ⟨e₁, hl₁, hr₁⟩ := h₁
  obtain ⟨e₂, hl₂, hr₂⟩ := h₂
  refine ⟨e₁ ++ e₂, by rw [hl₂, hl₁, List.append_assoc], ?_⟩
  rw [replayStrict_append, hr₁]
  exact hr₂

theorem changeLog_remove (s : Active) (p : PeerId) (r : Reason) : ChangeLog s (s.remove p r) := by
  cases hl : lookupConn s.conns p with
  | none => rw [remove_none s p r hl]; exact .refl s
  | some c =>
    have hp : p ∈ s.conns.map (·.1) := List.mem_map.mpr ⟨(p, c), lookupConn_some_mem _ _ _ hl, rfl⟩
    rw [remove_some s p r c hl]
    refine ⟨[.lostPeer p r], rfl, ?_⟩
    simp only [Active.peers, replayStrict, hp, if_true, keys_eraseConn]

theorem changeLog_add_vacant (own : PeerId) (s : Active) (c : Conn) (hl : lookupConn s.conns c.peer = none) :
    ChangeLog s (s.add own c).1 := by
  have hp : c.peer ∉ s.conns.map (·.1) := (lookupConn_none_iff _ _).mp hl
  rw [add_none own s c hl]
  refine ⟨[.newPeer c.peer], rfl, ?_⟩
  simp only [Active.peers, replayStrict, hp, if_false, List.map_append, List.map_singleton]

theorem changeLog_step (own : PeerId) (s : Active) (op : Op) : ChangeLog s (s.step own op) := by
  cases op with
  | add c =>
    show ChangeLog s (s.add own c).1
    cases hl : lookupConn s.conns c.peer with
    | none => exact changeLog_add_vacant own s c hl
    | some old =>
      cases ht : tieBreak own c.peer old.origin c.origin with
      | true =>
        rw [add_replace_eq own s c old hl ht]
        exact (changeLog_remove s c.peer .requested).trans (changeLog_add_vacant own _ c (remove_lookup_self s _ _))
      | false => rw [add_drop own s c old hl ht]; exact .refl s
  | remove p r => exact changeLog_remove s p r
  | removeStable p id r =>
    show ChangeLog s (s.removeStable p id r)
    rw [removeStable_eq]
    split
    · exact changeLog_remove s p r
    · exact .refl s

theorem changeLog_run (own : PeerId) (s : Active) (ops : List Op) : ChangeLog s (s.run own ops) := by
  induction ops generalizing s with
  | nil => exact .refl s
  | cons op t ih => exact (changeLog_step own s op).trans (ih _)

/-! ## the invariant -/

structure Active.Inv (s : Active) : Prop where
  nodup : (s.conns.map (·.1)).Nodup
  keyed : ∀ e ∈ s.conns, e.2.peer = e.1
  notClosed : ∀ e ∈ s.conns, e.2.id ∉ s.closed
  storedAdded : ∀ e ∈ s.conns, e.2.id ∈ s.added
  storedIdsNodup : (s.conns.map (·.2.id)).Nodup
  noLeak : ∀ i ∈ s.added, i ∈ s.closed ∨ ∃ e ∈ s.conns, e.2.id = i
  closedAdded : ∀ i ∈ s.closed, i ∈ s.added

theorem Active.inv_init : ({} : Active).Inv :=
  ⟨by simp, by simp, by simp, by simp, by simp, by simp, by simp⟩

/-- a fresh connection has neither been closed nor is it listed -/
theorem Active.Inv.fresh {s : Active} (h : s.Inv) {i : Nat} (hfresh : i ∉ s.added) :
    i ∉ s.closed ∧ i ∉ s.conns.map (·.2.id) := by
  refine ⟨fun hc => hfresh (h.closedAdded _ hc), fun hm => ?_⟩
  obtain ⟨e, he, rfl⟩ := List.mem_map.mp hm
  exact hfresh (h.storedAdded e he)

theorem Active.remove_inv (p : PeerId) (r : Reason) (s : Active) (h : s.Inv) : (s.remove p r).Inv := by
  cases hl : lookupConn s.conns p with
  | none => rw [remove_none s p r hl]; exact h
  | some c =>
    have hmem : (p, c) ∈ s.conns := lookupConn_some_mem _ _ _ hl
    -- what stays is listed under another peer, so it is another connection: stored ids are distinct
    have hstay : ∀ e ∈ eraseConn s.conns p, e ∈ s.conns ∧ e.2.id ≠ c.id := by
      intro e he
      obtain ⟨hin, hne⟩ := (mem_eraseConn _ _ _).mp he
      exact ⟨hin, fun heq => hne (congrArg (·.1) (List.inj_on_of_nodup_map h.storedIdsNodup hin hmem heq))⟩
    rw [remove_some s p r c hl]
    refine ⟨?_, ?_, ?_, ?_, ?_, ?_, ?_⟩
    · rw [keys_eraseConn]; exact h.nodup.filter _
    · exact fun e he => h.keyed e (hstay e he).1
    · intro e he
      rw [List.mem_append, List.mem_singleton, not_or]
      exact ⟨h.notClosed e (hstay e he).1, (hstay e he).2⟩
    · exact fun e he => h.storedAdded e (hstay e he).1
    · exact h.storedIdsNodup.sublist (List.filter_sublist.map _)
    · intro i hi
      rcases h.noLeak i hi with hc | ⟨e, he, rfl⟩
      · exact .inl (List.mem_append_left _ hc)
      · by_cases hep : e.1 = p
        · -- the entry listed under `p` is the one removed
          have := lookupConn_of_mem_nodup _ e.1 e.2 h.nodup he
          rw [hep, hl] at this
          exact .inl (by simp [Option.some.inj this])
        · exact .inr ⟨e, (mem_eraseConn _ _ _).mpr ⟨he, hep⟩, rfl⟩
    · intro i hi
      rcases List.mem_append.mp hi with hc | hc
      · exact h.closedAdded i hc
      · exact List.mem_singleton.mp hc ▸ h.storedAdded _ hmem

theorem Active.removeStable_inv (p : PeerId) (id : Nat) (r : Reason) (s : Active) (h : s.Inv) :
    (s.removeStable p id r).Inv := by
  rw [removeStable_eq]
  split
  · exact Active.remove_inv p r s h
  · exact h

theorem Active.add_vacant_inv (own : PeerId) (c : Conn) (s : Active) (h : s.Inv) (hfresh : c.id ∉ s.added)
    (hl : lookupConn s.conns c.peer = none) : (s.add own c).1.Inv := by
  rw [add_none own s c hl]
  refine ⟨?_, ?_, ?_, ?_, ?_, ?_, ?_⟩
  · exact List.nodup_map_concat.mpr ⟨(lookupConn_none_iff _ _).mp hl, h.nodup⟩
  · exact List.forall_mem_concat.mpr ⟨h.keyed, rfl⟩
  · exact List.forall_mem_concat.mpr ⟨h.notClosed, (h.fresh hfresh).1⟩
  · exact List.forall_mem_concat.mpr ⟨fun e he => List.mem_append_left _ (h.storedAdded e he), List.mem_concat_self⟩
  · exact List.nodup_map_concat.mpr ⟨(h.fresh hfresh).2, h.storedIdsNodup⟩
  · refine List.forall_mem_concat.mpr ⟨fun i hi => (h.noLeak i hi).imp_right ?_, .inr ⟨(c.peer, c), by simp, rfl⟩⟩
    exact fun ⟨e, he, hid⟩ => ⟨e, List.mem_append_left _ he, hid⟩
  · exact fun i hi => List.mem_append_left _ (h.closedAdded i hi)

theorem Active.add_inv (own : PeerId) (c : Conn) (s : Active) (h : s.Inv) (hfresh : c.id ∉ s.added) :
    (s.add own c).1.Inv := by
  cases hl : lookupConn s.conns c.peer with
  | none => exact Active.add_vacant_inv own c s h hfresh hl
  | some old =>
    cases ht : tieBreak own c.peer old.origin c.origin with
    | true =>
      rw [add_replace_eq own s c old hl ht]
      exact Active.add_vacant_inv own c _ (Active.remove_inv c.peer .requested s h) (by rwa [remove_added])
        (remove_lookup_self s _ _)
    | false =>
      rw [add_drop own s c old hl ht]
      refine ⟨h.nodup, h.keyed, ?_, ?_, h.storedIdsNodup, ?_, ?_⟩
      · intro e he
        rw [List.mem_append, List.mem_singleton, not_or]
        exact ⟨h.notClosed e he, fun heq => (h.fresh hfresh).2 (List.mem_map.mpr ⟨e, he, heq⟩)⟩
      · exact fun e he => List.mem_append_left _ (h.storedAdded e he)
      · exact List.forall_mem_concat.mpr ⟨fun i hi => (h.noLeak i hi).imp_left (List.mem_append_left _), .inl List.mem_concat_self⟩
      · exact List.forall_mem_concat.mpr ⟨fun i hi => List.mem_append_left _ (h.closedAdded i hi), List.mem_concat_self⟩

/-! ## what a history adds to `added` -/

theorem addedIds_append (a b : List Op) : addedIds (a ++ b) = addedIds a ++ addedIds b := by
  fun_induction addedIds a with
  | case1 => rfl
  | case2 c t ih => simp [addedIds, ih]
  | case3 op t h ih => simpa [addedIds] using ih

theorem added_step (own : PeerId) (s : Active) (op : Op) :
    (s.step own op).added = s.added ++ addedIds [op] := by
  cases op with
  | add c => exact add_added own s c
  | remove p r => simp [Active.step, remove_added, addedIds]
  | removeStable p id r =>
    simp only [Active.step, removeStable_eq, addedIds, List.append_nil]
    split
    · exact remove_added s p r
    · rfl

theorem Active.run_append (own : PeerId) (s : Active) (l₁ l₂ : List Op) :
    s.run own (l₁ ++ l₂) = (s.run own l₁).run own l₂ :=
  List.foldl_append

theorem added_run (own : PeerId) (s : Active) (ops : List Op) :
    (s.run own ops).added = s.added ++ addedIds ops := by
  induction ops generalizing s with
  | nil => simp [Active.run, addedIds]
  | cons op t ih =>
    rw [← List.singleton_append, addedIds_append, ← List.append_assoc, ← added_step own]
    exact ih _

/-! ## the registry seen from one peer

An operation reads and writes the entry of its own peer only and logs events about that peer only, and what it
does is a function of that entry (`Op.effect`). -/

/-- the entry of `op.peer` after `op` and the events `op` logs, given the entry before -/
def Op.effect (own : PeerId) : Op → Option Conn → Option Conn × List Event
  | .add c, none => (some c, [.newPeer c.peer])
  | .add c, some old =>
    if tieBreak own c.peer old.origin c.origin then (some c, [.lostPeer c.peer .requested, .newPeer c.peer])
    else (some old, [])
  | .remove _ _, none => (none, [])
  | .remove p r, some _ => (none, [.lostPeer p r])
  | .removeStable p id r, e => if e.map (·.id) = some id then (none, [.lostPeer p r]) else (e, [])

theorem eventsOf_append (q : PeerId) (l m : List Event) : eventsOf q (l ++ m) = eventsOf q l ++ eventsOf q m :=
  List.filter_append l m

theorem eventsOf_cons_ne (q : PeerId) (e : Event) (l : List Event) (h : e.peer ≠ q) :
    eventsOf q (e :: l) = eventsOf q l := by
  simp [eventsOf, h]

theorem Op.eventsOf_effect_ne (own : PeerId) (op : Op) (e : Option Conn) (q : PeerId) (h : op.peer ≠ q) :
    eventsOf q (op.effect own e).2 = [] := by
  fun_cases Op.effect own op e
  · exact eventsOf_cons_ne q (.newPeer _) [] h
  · exact (eventsOf_cons_ne q (.lostPeer _ _) _ h).trans (eventsOf_cons_ne q (.newPeer _) [] h)
  · rfl
  · rfl
  · exact eventsOf_cons_ne q (.lostPeer _ _) [] h
  · exact eventsOf_cons_ne q (.lostPeer _ _) [] h
  · rfl

/-- what an operation does, seen from each peer: the entry of its own peer and the log change by `Op.effect`,
the entries of all other peers stay -/
theorem step_effect (own : PeerId) (s : Active) (op : Op) :
    lookupConn (s.step own op).conns op.peer = (op.effect own (lookupConn s.conns op.peer)).1 ∧
    (s.step own op).log = s.log ++ (op.effect own (lookupConn s.conns op.peer)).2 ∧
    ∀ q, op.peer ≠ q → lookupConn (s.step own op).conns q = lookupConn s.conns q := by
  cases op with
  | add c =>
    simp only [Active.step, Op.peer]
    cases hl : lookupConn s.conns c.peer with
    | none =>
      rw [add_none own s c hl]
      exact ⟨lookupConn_append_self _ _ _ hl, rfl, fun q h => lookupConn_append_ne _ _ _ _ h⟩
    | some old =>
      cases ht : tieBreak own c.peer old.origin c.origin with
      | true =>
        rw [add_replace own s c old hl ht, Op.effect, if_pos ht]
        exact ⟨lookupConn_append_self _ _ _ (lookupConn_erase_self _ _), rfl,
          fun q h => (lookupConn_append_ne _ _ _ _ h).trans (lookupConn_erase_ne _ _ _ h)⟩
      | false =>
        rw [add_drop own s c old hl ht, Op.effect, if_neg (ne_true_of_eq_false ht)]
        exact ⟨hl, (List.append_nil _).symm, fun _ _ => rfl⟩
  | remove p r =>
    simp only [Active.step, Op.peer]
    cases hl : lookupConn s.conns p with
    | none =>
      rw [remove_none s p r hl]
      exact ⟨hl, (List.append_nil _).symm, fun _ _ => rfl⟩
    | some c =>
      rw [remove_some s p r c hl]
      exact ⟨lookupConn_erase_self _ _, rfl, fun q h => lookupConn_erase_ne _ _ _ h⟩
  | removeStable p id r =>
    show lookupConn (s.removeStable p id r).conns p = (Op.effect own (.removeStable p id r) (lookupConn s.conns p)).1 ∧
      (s.removeStable p id r).log = s.log ++ (Op.effect own (.removeStable p id r) (lookupConn s.conns p)).2 ∧
      ∀ q, p ≠ q → lookupConn (s.removeStable p id r).conns q = lookupConn s.conns q
    rw [removeStable_eq, Op.effect]
    by_cases h : (lookupConn s.conns p).map (·.id) = some id
    · obtain ⟨c, hl, -⟩ := Option.map_eq_some_iff.mp h
      rw [if_pos h, if_pos h, remove_some s p r c hl]
      exact ⟨lookupConn_erase_self _ _, rfl, fun q h => lookupConn_erase_ne _ _ _ h⟩
    · rw [if_neg h, if_neg h]
      exact ⟨rfl, (List.append_nil _).symm, fun _ _ => rfl⟩

/-- an operation about peer `p` leaves the entry of every other peer alone -/
theorem step_lookup_ne (own : PeerId) (s : Active) (op : Op) (q : PeerId) (h : op.peer ≠ q) :
    lookupConn (s.step own op).conns q = lookupConn s.conns q :=
  (step_effect own s op).2.2 q h

/-- what an operation about peer `q` does to `q`'s entry depends on `q`'s entry only -/
theorem step_lookup_same (own : PeerId) (s s' : Active) (op : Op) (q : PeerId) (h : op.peer = q)
    (hs : lookupConn s.conns q = lookupConn s'.conns q) :
    lookupConn (s.step own op).conns q = lookupConn (s'.step own op).conns q := by
  subst h
  rw [(step_effect own s op).1, (step_effect own s' op).1, hs]

theorem step_log_ne (own : PeerId) (s : Active) (op : Op) (q : PeerId) (h : op.peer ≠ q) :
    eventsOf q (s.step own op).log = eventsOf q s.log := by
  rw [(step_effect own s op).2.1, eventsOf_append, Op.eventsOf_effect_ne own op _ q h, List.append_nil]

theorem step_log_same (own : PeerId) (s s' : Active) (op : Op) (q : PeerId)
    (hs : lookupConn s.conns q = lookupConn s'.conns q) (hl : eventsOf q s.log = eventsOf q s'.log)
    (h : op.peer = q) :
    eventsOf q (s.step own op).log = eventsOf q (s'.step own op).log := by
  subst h
  rw [(step_effect own s op).2.1, (step_effect own s' op).2.1, eventsOf_append, eventsOf_append, hl, hs]

/-- the entry of peer `q` and the events about `q` after any history are those reached by the operations
about `q` alone -/
theorem Active.run_project (own : PeerId) (ops : List Op) (s s' : Active) (q : PeerId)
    (hs : lookupConn s.conns q = lookupConn s'.conns q) :
    lookupConn (s.run own ops).conns q = lookupConn (s'.run own (ops.filter (fun o => o.peer = q))).conns q ∧
    (eventsOf q s.log = eventsOf q s'.log →
      eventsOf q (s.run own ops).log = eventsOf q (s'.run own (ops.filter (fun o => o.peer = q))).log) := by
  induction ops generalizing s s' with
  | nil => exact ⟨hs, id⟩
  | cons op t ih =>
    by_cases h : op.peer = q
    · simp only [List.filter_cons, h, decide_true, if_true]
      have ⟨h₁, h₂⟩ := ih (s.step own op) (s'.step own op) (step_lookup_same own s s' op q h hs)
      exact ⟨h₁, fun hl => h₂ (step_log_same own s s' op q hs hl h)⟩
    · simp only [List.filter_cons, h, decide_false, Bool.false_eq_true, if_false]
      have ⟨h₁, h₂⟩ := ih (s.step own op) s' ((step_lookup_ne own s op q h).trans hs)
      exact ⟨h₁, fun hl => h₂ ((step_log_ne own s op q h).trans hl)⟩

theorem Active.run_lookup_project (own : PeerId) (ops : List Op) (s s' : Active) (q : PeerId)
    (hs : lookupConn s.conns q = lookupConn s'.conns q) :
    lookupConn (s.run own ops).conns q = lookupConn (s'.run own (ops.filter (fun o => o.peer = q))).conns q :=
  (Active.run_project own ops s s' q hs).1

theorem Active.run_log_project (own : PeerId) (ops : List Op) (s s' : Active) (q : PeerId)
    (hs : lookupConn s.conns q = lookupConn s'.conns q) (hl : eventsOf q s.log = eventsOf q s'.log) :
    eventsOf q (s.run own ops).log = eventsOf q (s'.run own (ops.filter (fun o => o.peer = q))).log :=
  (Active.run_project own ops s s' q hs).2 hl

end Anemo
