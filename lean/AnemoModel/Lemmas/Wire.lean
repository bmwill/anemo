/- Lemmas about the codec model: frames, bincode strings and header maps, the writer, the reader step by step,
reading what was written (under any receiver limit) and reading a strict prefix of it. -/
import AnemoModel.Wire
import AnemoModel.Lemmas.List

namespace Anemo
open Gen

/-! ## frames -/

theorem lenFieldMax_lt : lenFieldMax < 256^4 := by decide

theorem frame_ok (max : Nat) (p : Bytes) (hp : p.length ≤ max) : frame max p = .ok (be32 p.length ++ p) := by
  unfold frame; rw [if_neg (by omega)]

theorem frame_err (max : Nat) (p : Bytes) (hp : max < p.length) : frame max p = .error .frameTooBig := by
  unfold frame; rw [if_pos hp]

/-- `unframe` on a stream that starts with a complete length field -/
theorem unframe_be32 (max n : Nat) (r : Bytes) (hn : n < 256^4) :
    unframe max (be32 n ++ r) =
      if n > max then .error .frameTooBig
      else if r.length < n then (if r.isEmpty then .error .unexpectedEof else .error .bytesRemaining)
      else .ok (r.take n, r.drop n) := by
  have hrd : rdBe32 (be32 n ++ r) = some (n, r) := rdBeN_beN 4 n hn r
  unfold unframe
  split
  · next h =>
    have := congrArg List.length h
    simp at this
  · rw [hrd]

theorem unframe_frame (max : Nat) (p rest : Bytes) (hp : p.length ≤ max) (hmax : max ≤ lenFieldMax) :
    unframe max (be32 p.length ++ p ++ rest) = .ok (p, rest) := by
  have := lenFieldMax_lt
  rw [List.append_assoc, unframe_be32 _ _ _ (by omega), if_neg (by omega), if_neg (by simp)]
  simp

theorem unframe_tooBig (max : Nat) (p rest : Bytes) (hp : max < p.length) (hlt : p.length < 256^4) :
    unframe max (be32 p.length ++ p ++ rest) = .error .frameTooBig := by
  rw [List.append_assoc, unframe_be32 _ _ _ hlt, if_pos hp]

theorem unframe_lt4 (max : Nat) (bs : Bytes) (h : bs.length < 4) :
    ∃ e, unframe max bs = .error e ∧ (e = .unexpectedEof ∨ e = .bytesRemaining) := by
  unfold unframe
  split
  · exact ⟨_, rfl, .inl rfl⟩
  · rw [show rdBe32 bs = none from rdBeN_short 4 bs h]; exact ⟨_, rfl, .inr rfl⟩

/-- a stream that ends inside a frame within the limit: one of the two "ended too early" errors -/
theorem unframe_take (max : Nat) (p : Bytes) (j : Nat) (hp : p.length ≤ max) (hmax : max ≤ lenFieldMax)
    (hj : j < (be32 p.length ++ p).length) :
    ∃ e, unframe max ((be32 p.length ++ p).take j) = .error e ∧ (e = .unexpectedEof ∨ e = .bytesRemaining) := by
  rcases List.take_append_cases _ _ j hj with ⟨hj, e⟩ | ⟨hj, e⟩
  · rw [beN_length] at hj
    rw [e]
    exact unframe_lt4 max _ (Nat.lt_of_le_of_lt (List.length_take_le _ _) hj)
  · have hl : (p.take (j - (be32 p.length).length)).length < p.length :=
      Nat.lt_of_le_of_lt (List.length_take_le _ _) hj
    rw [e, unframe_be32 _ _ _ (Nat.lt_of_le_of_lt (Nat.le_trans hp hmax) lenFieldMax_lt), if_neg (Nat.not_lt.mpr hp),
      if_pos hl]
    split
    · exact ⟨_, rfl, .inl rfl⟩
    · exact ⟨_, rfl, .inr rfl⟩

/-! ## bincode strings and maps -/

theorem encStr_length (s : Bytes) : (encStr s).length = 8 + s.length := by simp [encStr, le64]

theorem encHeaders_length (h : Headers) : (encHeaders h).length = 8 + (encMap h).length := by simp [encHeaders, le64]

theorem decStr_encStr (s rest : Bytes) (hlen : s.length < 256^8) (hu : validUtf8 s = true) :
    decStr (encStr s ++ rest) = some (s, rest) := by
  have : rdLe64 (le64 s.length ++ (s ++ rest)) = some (s.length, s ++ rest) := rdLeN_leN 8 s.length hlen _
  simp [decStr, encStr, this, hu]

/-- the header map a decoder builds from the entries in wire order: last-wins insertion -/
def normHeaders (h : Headers) (acc : Headers := []) : Headers :=
  h.foldl (fun a kv => hInsert a kv.1 kv.2) acc

def StrWF (s : Bytes) : Prop := validUtf8 s = true
def HeadersUtf8 (h : Headers) : Prop := ∀ kv ∈ h, validUtf8 kv.1 = true ∧ validUtf8 kv.2 = true

theorem encMap_length_count (h : Headers) : 16 * h.length ≤ (encMap h).length := by
  induction h with
  | nil => simp [encMap]
  | cons a t ih => simp only [encMap, List.length_append, encStr_length, List.length_cons]; omega

theorem decMapLoop_encMap (h : Headers) (acc : Headers) (rest : Bytes) (hu : HeadersUtf8 h)
    (hs : (encMap h).length < 256^8) :
    decMapLoop h.length acc (encMap h ++ rest) = some (normHeaders h acc, rest) := by
  induction h generalizing acc with
  | nil => rfl
  | cons kv t ih =>
    obtain ⟨k, v⟩ := kv
    have ⟨hk, hv⟩ := hu (k, v) List.mem_cons_self
    simp only [encMap, List.length_append, encStr_length] at hs
    simp only [List.length_cons, decMapLoop, encMap, List.append_assoc, decStr_encStr k _ (by omega) hk,
      decStr_encStr v _ (by omega) hv]
    exact ih _ (fun x hx => hu x (List.mem_cons_of_mem _ hx)) (by omega)

theorem decHeaders_encHeaders (h : Headers) (rest : Bytes) (hu : HeadersUtf8 h) (hs : (encMap h).length < 256^8) :
    decHeaders (encHeaders h ++ rest) = some (normHeaders h, rest) := by
  have hn := encMap_length_count h
  have : rdLe64 (le64 h.length ++ (encMap h ++ rest)) = some (h.length, encMap h ++ rest) :=
    rdLeN_leN 8 h.length (by omega) _
  simp only [decHeaders, encHeaders, List.append_assoc, this]
  exact decMapLoop_encMap h [] rest hu hs

/-- inserting a fresh key appends -/
theorem hInsert_fresh (acc : Headers) (k v : Bytes) (hk : k ∉ acc.map (·.1)) :
    hInsert acc k v = acc ++ [(k, v)] := by
  induction acc with
  | nil => rfl
  | cons a t ih =>
    simp only [List.map_cons, List.mem_cons, not_or] at hk
    simp [hInsert, Ne.symm hk.1, ih hk.2]

theorem normHeaders_nodup_aux (h acc : Headers) (hnd : ((acc ++ h).map (·.1)).Nodup) :
    normHeaders h acc = acc ++ h := by
  induction h generalizing acc with
  | nil => simp [normHeaders]
  | cons kv t ih =>
    have hk : kv.1 ∉ acc.map (·.1) := by
      simp only [List.map_append, List.map_cons] at hnd
      exact fun hmem => (List.nodup_append.mp hnd).2.2 _ hmem _ (by simp) rfl
    rw [normHeaders, List.foldl_cons, hInsert_fresh acc _ _ hk, ← normHeaders,
      ih _ (by simpa using hnd), List.append_assoc]
    rfl

/-- with distinct keys the decoder reproduces the header list exactly, in order -/
theorem normHeaders_nodup (h : Headers) (hnd : (h.map (·.1)).Nodup) : normHeaders h = h := by
  simpa using normHeaders_nodup_aux h [] (by simpa using hnd)

theorem hInsert_cons (k' v' : Bytes) (t : Headers) (k v : Bytes) :
    hInsert ((k', v') :: t) k v = if k' = k then (k, v) :: t else (k', v') :: hInsert t k v := by
  simp only [hInsert, beq_iff_eq]

theorem hLookup_cons (k v : Bytes) (t : Headers) (k' : Bytes) :
    hLookup ((k, v) :: t) k' = if k = k' then some v else hLookup t k' := by
  simp only [hLookup, beq_iff_eq]

/-- last-wins lookup in the normalised map -/
theorem hLookup_hInsert (acc : Headers) (k v k' : Bytes) :
    hLookup (hInsert acc k v) k' = if k = k' then some v else hLookup acc k' := by
  induction acc with
  | nil => exact hLookup_cons k v [] k'
  | cons a t ih =>
    obtain ⟨ka, va⟩ := a
    rw [hInsert_cons, hLookup_cons]
    by_cases h1 : ka = k
    · subst h1; rw [if_pos rfl, hLookup_cons]; split <;> rfl
    · rw [if_neg h1, hLookup_cons, ih]
      by_cases h2 : ka = k'
      · rw [if_pos h2, if_pos h2, if_neg (fun h => h1 (h2.trans h.symm))]
      · rw [if_neg h2, if_neg h2]

theorem hLookup_none_of_not_mem (h : Headers) (k : Bytes) (hk : k ∉ h.map (·.1)) : hLookup h k = none := by
  induction h with
  | nil => rfl
  | cons e t ih =>
    obtain ⟨k', v'⟩ := e
    rw [hLookup_cons, if_neg fun e => hk (List.mem_cons.mpr (.inl e.symm)), ih fun hm => hk (List.mem_cons_of_mem _ hm)]

theorem hLookup_of_mem_nodup (h : Headers) (k v : Bytes) (hnd : (h.map (·.1)).Nodup) (hm : (k, v) ∈ h) :
    hLookup h k = some v := by
  induction h with
  | nil => cases hm
  | cons e t ih =>
    obtain ⟨k', v'⟩ := e
    have ⟨hfresh, hnd⟩ := List.nodup_cons.mp hnd
    rw [hLookup_cons]
    rcases List.mem_cons.mp hm with heq | hin
    · cases heq
      exact if_pos rfl
    · -- `k` is a key of the tail, so it is not the key at the head
      rw [if_neg fun e => hfresh (List.mem_map.mpr ⟨(k, v), hin, e.symm⟩), ih hnd hin]

/-! ## preamble -/
theorem preamble_length (v : Version) : (preamble v).length = 8 := by
  simp [preamble, ANEMO]

theorem decodeVersionFrame_short (bs : Bytes) (h : bs.length < 8) :
    decodeVersionFrame bs = .error .earlyEof := by
  unfold decodeVersionFrame
  split
  · simp at h; omega
  · rfl

/-- the preamble of every version in the table is read back, by evaluation -/
theorem decodeVersionFrame_preamble (v : Version) (t : Bytes) :
    decodeVersionFrame (preamble v ++ t) = .ok (v, t) := by
  cases v <;> rfl

/-! ## whole messages -/

/-- complete description of what the writer puts on the stream -/
theorem writeMsg_eq (max : Nat) (ver : Version) (hdr body : Bytes) :
    writeMsg max ver hdr body =
      if hdr.length ≤ max then
        if body.length ≤ max then
          (preamble ver ++ (be32 hdr.length ++ hdr) ++ (be32 body.length ++ body), none)
        else (preamble ver ++ (be32 hdr.length ++ hdr), some .frameTooBig)
      else (preamble ver, some .frameTooBig) := by
  unfold writeMsg
  by_cases h1 : hdr.length ≤ max
  · rw [frame_ok _ _ h1, if_pos h1]
    by_cases h2 : body.length ≤ max
    · rw [frame_ok _ _ h2, if_pos h2]
    · rw [frame_err _ _ (by omega), if_neg h2]
  · rw [frame_err _ _ (by omega), if_neg h1]

/-- the writer succeeds exactly when both frames fit, and then the layout is fixed -/
theorem writeMsg_ok_iff (max : Nat) (ver : Version) (hdr body bytes : Bytes) :
    writeMsg max ver hdr body = (bytes, none) ↔
      hdr.length ≤ max ∧ body.length ≤ max ∧
      bytes = preamble ver ++ (be32 hdr.length ++ hdr) ++ (be32 body.length ++ body) := by
  rw [writeMsg_eq]
  split
  · split <;> simp [*, eq_comm]
  · simp [*]

/-- what was written has a header that fits the length field (so the bincode lengths in it do) -/
theorem writeMsg_ok_lt {max : Nat} {ver : Version} {hdr body bytes : Bytes} (hmax : max ≤ lenFieldMax)
    (hw : writeMsg max ver hdr body = (bytes, none)) : hdr.length < 256^4 :=
  Nat.lt_of_le_of_lt (Nat.le_trans ((writeMsg_ok_iff _ _ _ _ _).mp hw).1 hmax) lenFieldMax_lt

theorem encodeRequest_ok_iff (max : Nat) (r : Req) (bytes : Bytes) :
    encodeRequest max r = .ok bytes ↔ writeMsg max r.version (encReqHeader r) r.body = (bytes, none) := by
  unfold encodeRequest writeRequest
  cases writeMsg max r.version (encReqHeader r) r.body with
  | mk bs e => cases e <;> simp

theorem encodeResponse_ok_iff (max : Nat) (r : Resp) (bytes : Bytes) :
    encodeResponse max r = .ok bytes ↔ writeMsg max r.version (encRespHeader r) r.body = (bytes, none) := by
  unfold encodeResponse writeResponse
  cases writeMsg max r.version (encRespHeader r) r.body with
  | mk bs e => cases e <;> simp

/-! `decodeMsg` step by step, over variables only (keeps kernel reduction away from big terms) -/
section steps
variable {α : Type} (parse : Bytes → Except WireErr α) (max : Nat) (bs : Bytes)

/-- inversion: a successful decode went through all four steps -/
theorem decodeMsg_ok_inv (ver : Version) (a : α) (body r2 : Bytes)
    (h : decodeMsg parse max bs = .ok (ver, a, body, r2)) :
    ∃ r0 hb r1, decodeVersionFrame bs = .ok (ver, r0) ∧ unframe max r0 = .ok (hb, r1) ∧
      parse hb = .ok a ∧ unframe max r1 = .ok (body, r2) := by
  unfold decodeMsg at h
  split at h
  · cases h
  · rename_i v r0 h0
    split at h
    · cases h
    · rename_i hb r1 h1
      split at h
      · cases h
      · rename_i a' h2
        split at h
        · cases h
        · rename_i b r h3
          cases h
          exact ⟨r0, hb, r1, h0, h1, h2, h3⟩

variable {parse max bs} {e : WireErr} {ver : Version} {r0 hb r1 body r2 : Bytes} {a : α}

theorem decodeMsg_err0 (h0 : decodeVersionFrame bs = .error e) : decodeMsg parse max bs = .error e := by
  simp only [decodeMsg, h0]

theorem decodeMsg_err1 (h0 : decodeVersionFrame bs = .ok (ver, r0)) (h1 : unframe max r0 = .error e) :
    decodeMsg parse max bs = .error e := by
  simp only [decodeMsg, h0, h1]

theorem decodeMsg_err2 (h0 : decodeVersionFrame bs = .ok (ver, r0)) (h1 : unframe max r0 = .ok (hb, r1))
    (h2 : parse hb = .error e) :
    decodeMsg parse max bs = .error e := by
  simp only [decodeMsg, h0, h1, h2]

theorem decodeMsg_err3 (h0 : decodeVersionFrame bs = .ok (ver, r0)) (h1 : unframe max r0 = .ok (hb, r1))
    (h2 : parse hb = .ok a) (h3 : unframe max r1 = .error e) :
    decodeMsg parse max bs = .error e := by
  simp only [decodeMsg, h0, h1, h2, h3]

theorem decodeMsg_ok (h0 : decodeVersionFrame bs = .ok (ver, r0)) (h1 : unframe max r0 = .ok (hb, r1))
    (h2 : parse hb = .ok a) (h3 : unframe max r1 = .ok (body, r2)) :
    decodeMsg parse max bs = .ok (ver, a, body, r2) := by
  simp only [decodeMsg, h0, h1, h2, h3]
end steps

/-- reading a message that was written (with any sender limit) under receiver limit `max` -/
theorem decodeMsg_written {α : Type} (parse : Bytes → Except WireErr α) (a : α) (wmax max : Nat) (ver : Version)
    (hdr body bytes rest : Bytes) (hwmax : wmax ≤ lenFieldMax) (hmax : max ≤ lenFieldMax)
    (hw : writeMsg wmax ver hdr body = (bytes, none)) (hp : parse hdr = .ok a) :
    decodeMsg parse max (bytes ++ rest) =
      if hdr.length ≤ max ∧ body.length ≤ max then .ok (ver, a, body, rest) else .error .frameTooBig := by
  obtain ⟨h1, h2, rfl⟩ := (writeMsg_ok_iff _ _ _ _ _).mp hw
  have hl4 := lenFieldMax_lt
  rw [List.append_assoc, List.append_assoc]
  have hv := decodeVersionFrame_preamble ver (be32 hdr.length ++ hdr ++ (be32 body.length ++ body ++ rest))
  by_cases hh : hdr.length ≤ max
  · have hu := unframe_frame max hdr (be32 body.length ++ body ++ rest) hh hmax
    by_cases hb : body.length ≤ max
    · rw [if_pos ⟨hh, hb⟩]
      exact decodeMsg_ok hv hu hp (unframe_frame max body rest hb hmax)
    · rw [if_neg fun h => hb h.2]
      exact decodeMsg_err3 hv hu hp (unframe_tooBig max body rest (Nat.lt_of_not_le hb) (by omega))
  · rw [if_neg fun h => hh h.1]
    exact decodeMsg_err1 hv (unframe_tooBig max hdr _ (Nat.lt_of_not_le hh) (by omega))

/-- Every strict prefix of a written message is rejected: with one of the three "stream ended too early"
errors, or - when the cut falls inside the body frame - with the error of the header parser, if it has one. -/
theorem decodeMsg_prefix {α : Type} (parse : Bytes → Except WireErr α) (max : Nat) (ver : Version)
    (hdr body bytes : Bytes) (k : Nat) (hmax : max ≤ lenFieldMax)
    (hw : writeMsg max ver hdr body = (bytes, none))
    (hk : k < bytes.length) :
    ∃ e, decodeMsg parse max (bytes.take k) = .error e ∧
      (e = .earlyEof ∨ e = .unexpectedEof ∨ e = .bytesRemaining ∨ parse hdr = .error e) := by
  obtain ⟨h1, h2, rfl⟩ := (writeMsg_ok_iff _ _ _ _ _).mp hw
  rcases List.take_append_cases _ _ k hk with ⟨hk, e⟩ | ⟨hj, e⟩
  · rcases List.take_append_cases _ _ k hk with ⟨hk, e'⟩ | ⟨hj, e'⟩
    · -- the stream ends inside the preamble
      rw [preamble_length] at hk
      rw [e, e']
      exact ⟨_, decodeMsg_err0 (decodeVersionFrame_short _ (Nat.lt_of_le_of_lt (List.length_take_le _ _) hk)), .inl rfl⟩
    · -- the stream ends inside the header frame
      rw [e, e']
      obtain ⟨e, he, hee⟩ := unframe_take max hdr _ h1 hmax hj
      exact ⟨e, decodeMsg_err1 (decodeVersionFrame_preamble _ _) he, .inr (hee.imp_right .inl)⟩
  · -- the header frame is complete, the stream ends inside the body frame
    rw [e, List.append_assoc]
    have hu := fun t => unframe_frame max hdr t h1 hmax
    cases hp : parse hdr with
    | error e' => exact ⟨e', decodeMsg_err2 (decodeVersionFrame_preamble _ _) (hu _) hp, .inr (.inr (.inr rfl))⟩
    | ok a =>
      obtain ⟨e, he, hee⟩ := unframe_take max body _ h2 hmax hj
      exact ⟨e, decodeMsg_err3 (decodeVersionFrame_preamble _ _) (hu _) hp he, .inr (hee.imp_right .inl)⟩

/-! ## header parsers on what the encoders produce -/

theorem parseReqHeader_enc (r : Req) (hr : StrWF r.route) (hh : HeadersUtf8 r.headers)
    (hs : (encReqHeader r).length < 256^4) :
    parseReqHeader (encReqHeader r) = .ok (r.route, normHeaders r.headers) := by
  rw [encReqHeader, List.length_append, encStr_length, encHeaders_length] at hs
  have hd := decHeaders_encHeaders r.headers [] hh (by omega)
  rw [List.append_nil] at hd
  simp only [parseReqHeader, decReqHeader, encReqHeader, decStr_encStr r.route _ (by omega) hr, hd]

theorem parseRespHeader_enc (r : Resp) (hh : HeadersUtf8 r.headers)
    (hst : StatusCode.new r.status.toU16 = some r.status) (hlt : r.status.toU16 < 256^2)
    (hs : (encRespHeader r).length < 256^4) :
    parseRespHeader (encRespHeader r) = .ok (r.status, normHeaders r.headers) := by
  rw [encRespHeader, List.length_append, leN_length, encHeaders_length] at hs
  have h1 : rdLe16 (le16 r.status.toU16 ++ encHeaders r.headers) = some (r.status.toU16, encHeaders r.headers) :=
    rdLeN_leN 2 _ hlt _
  have hd := decHeaders_encHeaders r.headers [] hh (by omega)
  rw [List.append_nil] at hd
  simp only [parseRespHeader, decRespHeader, encRespHeader, h1, hd, hst]

/-! ## reading what was written, under the receiver's own limit -/

theorem decodeRequest_written (wmax max : Nat) (r : Req) (bytes rest : Bytes)
    (hwmax : wmax ≤ lenFieldMax) (hmax : max ≤ lenFieldMax) (hr : StrWF r.route) (hh : HeadersUtf8 r.headers)
    (henc : encodeRequest wmax r = .ok bytes) :
    decodeRequest max (bytes ++ rest) =
      if (encReqHeader r).length ≤ max ∧ r.body.length ≤ max then
        .ok ({ route := r.route, headers := normHeaders r.headers, body := r.body, version := r.version, ext := [] }, rest)
      else .error .frameTooBig := by
  have hw := (encodeRequest_ok_iff wmax r bytes).mp henc
  unfold decodeRequest
  rw [decodeMsg_written parseReqHeader _ wmax max r.version _ r.body bytes rest hwmax hmax hw
    (parseReqHeader_enc r hr hh (writeMsg_ok_lt hwmax hw))]
  by_cases hc : (encReqHeader r).length ≤ max ∧ r.body.length ≤ max
  · rw [if_pos hc, if_pos hc]
  · rw [if_neg hc, if_neg hc]

theorem decodeResponse_written (wmax max : Nat) (r : Resp) (bytes rest : Bytes)
    (hwmax : wmax ≤ lenFieldMax) (hmax : max ≤ lenFieldMax) (hh : HeadersUtf8 r.headers)
    (hst : StatusCode.new r.status.toU16 = some r.status) (hlt : r.status.toU16 < 256^2)
    (henc : encodeResponse wmax r = .ok bytes) :
    decodeResponse max (bytes ++ rest) =
      if (encRespHeader r).length ≤ max ∧ r.body.length ≤ max then
        .ok ({ status := r.status, headers := normHeaders r.headers, body := r.body, version := r.version, ext := [] }, rest)
      else .error .frameTooBig := by
  have hw := (encodeResponse_ok_iff wmax r bytes).mp henc
  unfold decodeResponse
  rw [decodeMsg_written parseRespHeader _ wmax max r.version _ r.body bytes rest hwmax hmax hw
    (parseRespHeader_enc r hh hst hlt (writeMsg_ok_lt hwmax hw))]
  by_cases hc : (encRespHeader r).length ≤ max ∧ r.body.length ≤ max
  · rw [if_pos hc, if_pos hc]
  · rw [if_neg hc, if_neg hc]

end Anemo
