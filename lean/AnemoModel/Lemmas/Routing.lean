import AnemoModel.Routing
import AnemoModel.Lemmas.List
namespace Anemo

/-! ## what a pattern matches -/

theorem Pattern.matches_exact (a path : Bytes) : (Pattern.exact a).matches path = true ↔ a = path := beq_iff_eq

theorem Pattern.matches_catchAll (pre path : Bytes) : (Pattern.catchAll pre).matches path = true ↔ pre <+: path :=
  List.isPrefixOf_iff_prefix

/-! ## `splitStar` cuts at the first '*' -/

theorem splitStar_eq_some {s pre name : Bytes} (h : splitStar s = some (pre, name)) : s = pre ++ 0x2a :: name := by
  induction s generalizing pre with
  | nil => cases h
  | cons c rest ih =>
    rw [splitStar] at h
    split at h
    · cases h
      subst c
      rfl
    · split at h
      · cases h
        exact congrArg (c :: ·) (ih ‹_›)
      · cases h

theorem splitStar_append (a b : Bytes) (ha : ∀ c ∈ a, c ≠ 0x2a) : splitStar (a ++ 0x2a :: b) = some (a, b) := by
  induction a with
  | nil => exact if_pos rfl
  | cons x xs ih =>
    rw [List.cons_append, splitStar, if_neg (ha x List.mem_cons_self),
      ih (fun c hc => ha c (List.mem_cons_of_mem x hc))]

/-! ## patterns that parse -/

/-- "/…/" free of '*' and ':', then '*', then a nonempty name free of '/', '*' and ':' is a catch-all -/
theorem parsePattern_catchAll {pre name : Bytes} (hhead : pre.head? = some slash) (hlast : pre.getLast? = some slash)
    (hpre : ∀ c ∈ pre, c ≠ 0x2a ∧ c ≠ 0x3a) (hne : name.isEmpty = false)
    (hname : name.contains slash = false ∧ name.contains 0x2a = false ∧ name.contains 0x3a = false) :
    parsePattern (pre ++ 0x2a :: name) = some (.catchAll pre) := by
  have hcolon : pre.contains 0x3a = false :=
    Bool.eq_false_iff.mpr fun h => (hpre _ (List.contains_iff_mem.mp h)).2 rfl
  have hsplit := splitStar_append pre name fun c hc => (hpre c hc).1
  obtain ⟨rest, rfl⟩ := List.head?_eq_some_iff.mp hhead
  rw [List.cons_append] at hsplit ⊢
  rw [parsePattern, if_neg (by decide), hsplit]
  exact if_pos (by rw [hlast, hne, hname.1, hname.2.1, hname.2.2, hcolon]; rfl)

end Anemo
