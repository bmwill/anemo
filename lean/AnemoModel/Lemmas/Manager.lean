/-
What the pieces of the connection-manager model do, one component at a time: the connected set and the
affinity table of the listener (used by C10), the backoff table, `drain`, `eligible` and `tick` of the
background dialer (used by C13).
-/
import AnemoModel.Manager
import AnemoModel.Lemmas.List

namespace Anemo

/-! ### the listener: connected set and affinity table -/

theorem mem_insertSet_self (l : List Nat) (p : Nat) : p ∈ insertSet l p := by
  unfold insertSet
  split
  · assumption
  · exact List.mem_append_right _ (List.mem_singleton_self p)

theorem insertSet_nodup (l : List Nat) (p : Nat) (h : l.Nodup) : (insertSet l p).Nodup := by
  unfold insertSet
  split
  · exact h
  · rename_i hp
    rw [List.nodup_append]
    exact ⟨h, List.pairwise_singleton _ p, fun a ha b hb e => hp (List.mem_singleton.mp hb ▸ e ▸ ha)⟩

theorem insertSet_length_le (l : List Nat) (p : Nat) : (insertSet l p).length ≤ l.length + 1 := by
  unfold insertSet
  split
  · exact Nat.le_succ _
  · exact Nat.le_of_eq (List.length_append ..)

theorem length_filter_ne (l : List Nat) (p : Nat) (hnd : l.Nodup) (hp : p ∈ l) :
    (l.filter (· ≠ p)).length + 1 = l.length := by
  have h : l.filter (· ≠ p) = l.erase p := by
    rw [hnd.erase_eq_filter]
    exact List.filter_congr fun x _ => by rw [decide_not, bne, Bool.beq_eq_decide_eq]
  rw [h, List.length_erase_of_mem hp]
  exact Nat.sub_add_cancel (List.length_pos_of_mem hp)

theorem mem_of_lookupAff (known : List (Nat × Affinity)) (p : Nat) (a : Affinity)
    (h : lookupAff known p = some a) : (p, a) ∈ known := by
  induction known with
  | nil => cases h
  | cons e t ih =>
    obtain ⟨q, b⟩ := e
    simp only [lookupAff] at h
    split at h
    · next hx => exact List.mem_cons_of_mem _ (ih (hx.trans h))
    · split at h
      · next hq => cases h; exact hq ▸ List.mem_cons_self
      · cases h

theorem Listener.step_arrive (s : Listener) (p : Nat) :
    s.step (.arrive p) =
      (bif admits (lookupAff s.known p) s.limit s.connected.length
        then { s with connected := insertSet s.connected p } else s,
       some (admits (lookupAff s.known p) s.limit s.connected.length)) := by
  cases h : admits (lookupAff s.known p) s.limit s.connected.length with
  | false => exact if_neg (ne_true_of_eq_false h)
  | true => exact if_pos h

/-! ### the dialer: backoff table -/

theorem lookupBackoff_setBackoff (l : List (Nat × Backoff)) (p : Nat) (b : Backoff) :
    lookupBackoff (setBackoff l p b) p = some b :=
  if_pos rfl

theorem lookupBackoff_eq_none (l : List (Nat × Backoff)) (p : Nat) (h : ∀ e ∈ l, e.1 ≠ p) :
    lookupBackoff l p = none := by
  induction l with
  | nil => rfl
  | cons e t ih =>
    obtain ⟨q, b⟩ := e
    have hq : q ≠ p := h (q, b) List.mem_cons_self
    simp only [lookupBackoff, hq, if_false]
    exact ih fun e he => h e (List.mem_cons_of_mem _ he)

theorem lookupBackoff_filter_ne (l : List (Nat × Backoff)) (p : Nat) :
    lookupBackoff (l.filter (·.1 ≠ p)) p = none :=
  lookupBackoff_eq_none _ p fun _ he => of_decide_eq_true (List.mem_filter.mp he).2

/-- the entry after `n + 1` consecutive failures, each noticed at `now` -/
theorem Backoff.foldl_update (now step max n : Nat) :
    (List.range (n + 1)).foldl (fun acc _ => some (Backoff.update now step max acc)) none =
      some { until_ := now + min max (step * min (n + 1) (2^32 - 1)), attempts := n + 1 } := by
  induction n with
  | zero => rfl
  | succ m ih =>
    rw [List.range_succ, List.foldl_append, ih]
    rfl

/-! ### the dialer: one connectivity check -/

variable {cfg : TickCfg} {now : Nat} {known : List KnownPeer} {connected : List Nat} {pc : Nat}
  {done : List (Nat × Bool)} {st : TickState}

theorem drain_pending :
    (drain cfg now st done).pending = st.pending.filter fun p => done.all (p ≠ ·.1) := by
  induction done generalizing st with
  | nil => exact (List.filter_eq_self.mpr fun _ _ => rfl).symm
  | cons e t ih =>
    obtain ⟨q, ok⟩ := e
    by_cases hq : q ∈ st.pending
    · rw [drain, if_pos hq, ih, List.filter_filter]
      exact List.filter_congr fun p _ => Bool.and_comm ..
    · -- `q` is not pending: filtering it out as well changes nothing
      rw [drain, if_neg hq, ih]
      refine List.filter_congr fun p hp => ?_
      have hpq : p ≠ q := fun e => hq (e ▸ hp)
      rw [List.all_cons, decide_eq_true hpq, Bool.true_and]

theorem mem_drain_pending {p : Nat} :
    p ∈ (drain cfg now st done).pending ↔ p ∈ st.pending ∧ ∀ e ∈ done, p ≠ e.1 := by
  simp only [drain_pending, List.mem_filter, List.all_eq_true, decide_eq_true_eq]

theorem eligible_iff {k : KnownPeer} :
    eligible cfg now connected st k = true ↔
      k.aff = .high ∧ k.id ≠ cfg.own ∧ 0 < k.naddr ∧ k.id ∉ connected ∧ k.id ∉ st.pending ∧
        ∀ b, lookupBackoff st.backoffs k.id = some b → b.until_ < now := by
  unfold eligible
  cases lookupBackoff st.backoffs k.id <;>
    simp only [Bool.and_eq_true, beq_iff_eq, bne_iff_ne, ne_eq, decide_eq_true_eq, Bool.not_eq_true',
      decide_eq_false_iff_not, and_assoc, reduceCtorEq, false_implies, implies_true, and_true,
      Option.some.injEq, forall_eq']

theorem tick_dials :
    (tick cfg now known connected pc done st).2 =
      ((known.filter (eligible cfg now connected (drain cfg now st done))).take (cfg.cap - pc)).map
        fun k => (k.id, addrIndex (drain cfg now st done) k) := by
  simp only [tick, Nat.min_comm, ← List.take_eq_take_min]

theorem tick_pending :
    (tick cfg now known connected pc done st).1.pending =
      (drain cfg now st done).pending ++ (tick cfg now known connected pc done st).2.map (·.1) := by
  simp only [tick, List.map_map]
  rfl

end Anemo
