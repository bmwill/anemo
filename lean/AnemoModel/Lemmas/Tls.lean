/-
What the verifiers of `Tls.lean` demand, conjunct by conjunct; what they do on an honest endpoint's
certificate; the closed form of an honest dial; the verifiers as the translation of crypto.rs; runs of
the ack protocol.
-/
import AnemoModel.Tls
import AnemoModel.Lemmas.List
namespace Anemo

theorem dnsEq_iff {a b : Name} : dnsEq a b = true ↔ a.map lower = b.map lower := beq_iff_eq

theorem dnsEq_refl (a : Name) : dnsEq a a = true := dnsEq_iff.mpr rfl

theorem dnsEq_symm (a b : Name) : dnsEq a b = dnsEq b a :=
  Bool.eq_iff_iff.mpr (dnsEq_iff.trans (eq_comm.trans dnsEq_iff.symm))

theorem certOk_iff {c : Cert} : certOk c = true ↔
    c.wellFormed = true ∧ c.spkiAlg = .ed25519 ∧ c.sigAlg = .ed25519 ∧ c.signer = c.spki ∧ c.validNow = true := by
  simp only [certOk, Bool.and_eq_true, beq_iff_eq, and_assoc]

theorem hsOk_iff {c : Cert} {hs : HsSig} : hsOk c hs = true ↔ hs.alg = .ed25519 ∧ hs.signer = c.spki := by
  simp only [hsOk, Bool.and_eq_true, beq_iff_eq]

theorem pinOk_some_iff {p : Key} {c : Cert} :
    pinOk (some p) c = true ↔ c.wellFormed = true ∧ c.spkiAlg = .ed25519 ∧ c.spki = p := by
  simp only [pinOk, Bool.and_eq_true, beq_iff_eq, and_assoc]

theorem serverAccepts_some_eq_some_iff {accepted : List Name} {sni : Name} {c : Cert} {hs : HsSig} {k : Key} :
    serverAccepts accepted sni (some c) hs = some k ↔
      accepted.any (dnsEq sni) = true ∧ certOk c = true ∧ accepted.any (validFor c) = true ∧ hsOk c hs = true ∧
        c.spki = k := by
  simp only [serverAccepts, Option.ite_none_right_eq_some, Bool.and_eq_true, Option.some.injEq, and_assoc]

theorem clientAccepts_eq_some_iff {own : List Name} {pin? : Option Key} {dialed : Name} {c : Cert} {hs : HsSig}
    {k : Key} :
    clientAccepts own pin? dialed c hs = some k ↔
      pinOk pin? c = true ∧ own.contains dialed = true ∧ certOk c = true ∧ validFor c dialed = true ∧
        hsOk c hs = true ∧ c.spki = k := by
  simp only [clientAccepts, Option.ite_none_right_eq_some, Bool.and_eq_true, Option.some.injEq, and_assoc]

theorem certOk_honestCert (k : Key) (n : Name) : certOk (honestCert k n) = true :=
  certOk_iff.mpr ⟨rfl, rfl, rfl, rfl, rfl⟩

theorem hsOk_honestCert (k : Key) (n : Name) : hsOk (honestCert k n) ⟨k, .ed25519⟩ = true :=
  hsOk_iff.mpr ⟨rfl, rfl⟩

theorem validFor_honestCert (k : Key) (n : Name) : validFor (honestCert k n) = dnsEq n :=
  funext fun m => by simp only [validFor, honestCert, List.any_cons, List.any_nil, Bool.or_false, dnsEq_symm m n]

theorem pinOk_honestCert (pin? : Option Key) (k : Key) (n : Name) :
    pinOk pin? (honestCert k n) = pin?.all (k == ·) := by
  cases pin? <;> rfl

theorem serverAccepts_honest (accepted : List Name) (sni : Name) (k : Key) (n : Name) :
    serverAccepts accepted sni (some (honestCert k n)) ⟨k, .ed25519⟩ =
      if accepted.any (dnsEq sni) && accepted.any (dnsEq n) then some k else none := by
  simp only [serverAccepts, certOk_honestCert, hsOk_honestCert, validFor_honestCert, Bool.and_true]
  rfl

theorem clientAccepts_honest (own : List Name) (pin? : Option Key) (dialed : Name) (k : Key) (n : Name) :
    clientAccepts own pin? dialed (honestCert k n) ⟨k, .ed25519⟩ =
      if pin?.all (k == ·) && own.contains dialed && dnsEq n dialed then some k else none := by
  simp only [clientAccepts, certOk_honestCert, hsOk_honestCert, validFor_honestCert, pinOk_honestCert, Bool.and_true]
  rfl

theorem honestConnect_eq (d : EndpointNames) (kd : Key) (l : EndpointNames) (kl : Key) (pin? : Option Key) :
    honestConnect d kd l kl pin? =
      if l.accepted.any (dnsEq d.primary) && pin?.all (kl == ·) then some (kd, kl) else none := by
  unfold honestConnect
  cases hf : l.accepted.find? (dnsEq d.primary) with
  | none =>
    rw [List.any_eq_false.mpr (List.find?_eq_none.mp hf)]
    rfl
  | some served =>
    have hserved : dnsEq d.primary served = true := List.find?_some hf
    have hany : l.accepted.any (dnsEq d.primary) = true :=
      List.any_eq_true.mpr ⟨served, List.mem_of_find?_eq_some hf, hserved⟩
    have hs : serverAccepts l.accepted d.primary (some (honestCert kd d.primary)) ⟨kd, .ed25519⟩ = some kd := by
      rw [serverAccepts_honest, hany]
      rfl
    have hc : clientAccepts [d.primary] pin? d.primary (honestCert kl served) ⟨kl, .ed25519⟩ =
        if pin?.all (kl == ·) then some kl else none := by
      simp only [clientAccepts_honest, dnsEq_symm served, hserved, List.contains_cons, beq_self_eq_true,
        Bool.true_or, Bool.and_true]
    simp only [hs, hc, hany, Bool.true_and]
    cases pin?.all (kl == ·) <;> rfl

/-! The verifiers as the source spells them: each side is the conjunction of the same checks, so unfold,
drop the steps that demand nothing, reassociate. -/

theorem verifyClientCertGen_eq (names : List Name) (c : Cert) :
    verifyClientCertGen names c = (certOk c && names.any (validFor c)) := by
  simp only [verifyClientCertGen, Gen.verifyClientCertGen, List.all_cons, List.all_nil, evalTlsStep, certOk,
    Bool.true_and, Bool.and_true, Bool.and_assoc]

theorem verifyServerCertGen_eq (names : List Name) (dialed : Name) (c : Cert) :
    verifyServerCertGen names dialed c = (names.contains dialed && certOk c && validFor c dialed) := by
  simp only [verifyServerCertGen, Gen.verifyServerCertGen, List.all_cons, List.all_nil, evalTlsStep, certOk,
    Bool.true_and, Bool.and_true, Bool.and_assoc]
  -- the source makes the trust anchor (`wellFormed`) before it looks the dialled name up
  exact Bool.and_left_comm ..

theorem verifyPinnedServerCertGen_eq (names : List Name) (dialed : Name) (p : Key) (c : Cert) :
    verifyPinnedServerCertGen names dialed p c =
      (pinOk (some p) c && names.contains dialed && certOk c && validFor c dialed) := by
  have hd : Gen.verifyPinnedServerCertGen.contains .delegateToCertVerifier = true := rfl
  rw [verifyPinnedServerCertGen, hd, verifyServerCertGen_eq]
  simp only [Gen.verifyPinnedServerCertGen, List.all_cons, List.all_nil, evalTlsStep, pinOk, Bool.and_true,
    Bool.and_assoc]

theorem validRun_cons {pinOk : Bool} {done rest : List DialEv} {e : DialEv} :
    validRun pinOk done (e :: rest) = true ↔
      (∀ r ∈ e.requires, r ∈ done) ∧ e ∉ done ∧ (pinOk = true ∨ e ≠ .dTls) ∧
        validRun pinOk (done ++ [e]) rest = true := by
  simp only [validRun, Bool.and_eq_true, List.all_eq_true, decide_eq_true_eq, Bool.not_eq_true', Bool.eq_false_iff,
    List.contains_iff_mem, Bool.or_eq_true, bne_iff_ne, ne_eq, and_assoc]

theorem validRun_requires (pinOk : Bool) (done l1 l2 : List DialEv) (e : DialEv)
    (h : validRun pinOk done (l1 ++ e :: l2) = true) : ∀ r ∈ e.requires, r ∈ done ++ l1 := by
  induction l1 generalizing done with
  | nil =>
    rw [List.append_nil]
    exact (validRun_cons.mp h).1
  | cons x t ih =>
    have := ih (done ++ [x]) (validRun_cons.mp h).2.2.2
    rwa [List.append_assoc] at this

theorem validRun_false_nil (run : List DialEv) (h : validRun false [] run = true) : run = [] := by
  cases run with
  | nil => rfl
  | cons e rest =>
    obtain ⟨hreq, _, hpin, _⟩ := validRun_cons.mp h
    -- nothing stands before the first event: `dTls` is disabled, every other event requires something
    cases e with
    | dTls => exact absurd rfl (hpin.resolve_left Bool.false_ne_true)
    | _ => exact absurd (hreq _ List.mem_cons_self) List.not_mem_nil

end Anemo
