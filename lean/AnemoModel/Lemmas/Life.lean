/- lemmas about the lifecycle model: how `Api.run` decomposes; what spawning, a change of phase and a
step that changes nothing do to the manager's `work` and `poll` -/
import AnemoModel.Life
namespace Anemo.Life

/-! ### the API -/

theorem run_cons (s : Api) (c : Call) (cs : List Call) :
    s.run (c :: cs) = (((s.call c).1.run cs).1, (s.call c).2 :: ((s.call c).1.run cs).2) := rfl

theorem run_append (s : Api) (a b : List Call) :
    s.run (a ++ b) = (((s.run a).1.run b).1, (s.run a).2 ++ ((s.run a).1.run b).2) := by
  induction a generalizing s with
  | nil => rfl
  | cons c cs ih => simp only [List.cons_append, run_cons, ih]

/-- calls that leave the state as it is are answered one by one from that state -/
theorem run_of_call_fst {s : Api} {cs : List Call} (h : ∀ c ∈ cs, (s.call c).1 = s) :
    s.run cs = (s, cs.map fun c => (s.call c).2) := by
  induction cs with
  | nil => rfl
  | cons c cs ih =>
    rw [run_cons, h c List.mem_cons_self, ih fun c hc => h c (List.mem_cons_of_mem _ hc), List.map_cons]

/-- only `shutdown` changes the state -/
theorem call_fst_of_ne_shutdown (s : Api) {c : Call} (hc : c ≠ .shutdown) : (s.call c).1 = s := by
  cases c with
  | shutdown => exact absurd rfl hc
  | _ => rfl

/-! ### the manager task -/

theorem spawnPending_tornDown (m : Mgr) : (spawnPending m).tornDown = m.tornDown := by
  unfold spawnPending
  split <;> rfl

theorem spawnHandler_tornDown (m : Mgr) : (spawnHandler m).tornDown = m.tornDown := by
  unfold spawnHandler
  split <;> rfl

/-- a connection task spawned on a runtime that is gone leaves a join result, one that runs is not counted -/
theorem work_spawnPending_le (m : Mgr) : (spawnPending m).work ≤ m.work + 4 := by
  unfold spawnPending
  split
  · simp +arith [Mgr.work]
  · exact Nat.le_add_right _ _

/-- a handler is counted while it runs (2) or by its join result (1) -/
theorem work_spawnHandler_le (m : Mgr) : (spawnHandler m).work ≤ m.work + 2 := by
  unfold spawnHandler
  split <;> simp +arith [Mgr.work]

/-- moving on to a later phase lowers `work`, when what else `work` counts has not grown -/
theorem work_lt_of_rank_lt {m m' : Mgr} (hr : m'.phase.rank < m.phase.rank)
    (hw : ({ m' with phase := m.phase } : Mgr).work ≤ m.work) : m'.work < m.work := by
  refine Nat.lt_of_lt_of_le ?_ hw
  simp +arith only [Mgr.work]
  exact (Nat.mul_lt_mul_left (by decide)).mpr hr

/-- an incoming connection that cannot be accepted is skipped, when `accept` reports `None` for a closed endpoint only -/
theorem stepLoop_accept_refused {f : Flags} {m : Mgr} (hf : f.acceptNoneMeansClosed = true) (hr : m.refused > 0) :
    m.stepLoop f .accept = .next { m with refused := m.refused - 1 } := by
  simp only [Mgr.stepLoop, hr, hf, if_true]

/-- the loop does not yield while some arm is ready -/
theorem anyReady_of_ready {f : Flags} {m : Mgr} {a : Arm} (h : m.stepLoop f a ≠ .notReady) :
    m.anyReady f = true := by
  refine List.any_eq_true.mpr ⟨a, by cases a <;> decide, ?_⟩
  split
  · contradiction
  · rfl

/-- a step that leaves the state as it is can be repeated for ever inside one poll -/
theorem poll_replicate_of_step_self {f : Flags} {m : Mgr} {a : Arm} (h : m.step f a = .next m) (n k : Nat) :
    Mgr.poll f m (List.replicate n a) k = (.next m, k + n) := by
  induction n generalizing k with
  | zero => rfl
  | succ n ih =>
    rw [List.replicate_succ, Mgr.poll, h]
    simp only
    rw [ih, Nat.add_right_comm, Nat.add_assoc]

end Anemo.Life
