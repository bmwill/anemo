/- General facts about lists that several lemma files need, and an instance shortcut for comparing bytes.
Core only; nothing here is about anemo. -/

/-- Shortcut: found unaided, this instance costs a search through the order classes of `UInt8` in every
declaration that compares bytes (`beq_iff_eq`, `List.isPrefixOf_iff_prefix`, `List.contains_iff_mem`). -/
instance lawfulBEqByte : LawfulBEq UInt8 := inferInstance

namespace List

theorem inj_on_of_nodup_map {α β} {f : α → β} {l : List α} (h : (l.map f).Nodup) {a b : α}
    (ha : a ∈ l) (hb : b ∈ l) (e : f a = f b) : a = b :=
  have hp : l.Pairwise (fun a b => f a ≠ f b) := List.pairwise_map.mp h
  List.Pairwise.forall_of_forall_of_flip (R := fun a b => f a = f b → a = b) (fun _ _ _ => rfl)
    (hp.imp fun hne e => absurd e hne) (hp.imp fun hne e => absurd e.symm hne) ha hb e

theorem nodup_map_concat {α β} {f : α → β} {l : List α} {a : α} :
    ((l ++ [a]).map f).Nodup ↔ f a ∉ l.map f ∧ (l.map f).Nodup := by
  rw [List.map_append, List.map_singleton]
  exact (List.perm_append_singleton (f a) (l.map f)).nodup_iff.trans List.nodup_cons

theorem forall_mem_concat {α} {p : α → Prop} {l : List α} {a : α} :
    (∀ x ∈ l ++ [a], p x) ↔ (∀ x ∈ l, p x) ∧ p a := by
  rw [List.forall_mem_append, List.forall_mem_singleton]

/-- a strict prefix of `l₁ ++ l₂` is a strict prefix of `l₁`, or `l₁` followed by a strict prefix of `l₂` -/
theorem take_append_cases {α : Type} (l₁ l₂ : List α) (k : Nat) (hk : k < (l₁ ++ l₂).length) :
    (k < l₁.length ∧ (l₁ ++ l₂).take k = l₁.take k) ∨
    (k - l₁.length < l₂.length ∧ (l₁ ++ l₂).take k = l₁ ++ l₂.take (k - l₁.length)) := by
  rw [List.length_append] at hk
  by_cases h : k < l₁.length
  · exact .inl ⟨h, List.take_append_of_le_length (Nat.le_of_lt h)⟩
  · have h := Nat.le_of_not_lt h
    exact .inr ⟨Nat.sub_lt_left_of_lt_add h hk, by rw [List.take_append, List.take_of_length_le h]⟩

end List
