/-
What the definitions of the tower layers (`AnemoModel/Tower.lean`) do on each form of input: the equations the
property files C18-C20 reason from.
-/
import AnemoModel.Tower
namespace Anemo

/-! ## Auth -/
section Auth
variable (auth : AReq → Except AResp AReq) (list : List Nat)

/-- the allow-list passes a request on exactly when its sender is listed, and then unchanged -/
theorem allowedPeers_ok_iff (req r' : AReq) :
    allowedPeers list req = .ok r' ↔ r' = req ∧ ∃ p, req.sender = some p ∧ p ∈ list := by
  rw [allowedPeers]
  cases req.sender with
  | none => simp
  | some p => by_cases hp : p ∈ list <;> simp [hp, eq_comm]

theorem accepted_append (a b : List AReq) : accepted auth (a ++ b) = accepted auth a ++ accepted auth b := by
  induction a with
  | nil => rfl
  | cons r a ih =>
    simp only [List.cons_append, accepted]
    cases auth r <;> simp [ih]

end Auth

/-! ## Inflight limit -/
section Inflight
variable (s : Inflight) (limit : Nat) (block : Bool) (running waiting : List Nat) (x : PeerSlots) (r p : Nat)

/-- every request a peer's slots hold -/
abbrev PeerSlots.all (x : PeerSlots) : List Nat := x.running ++ x.waiting

/-! ### `promote` -/

/-- closed form: the first `limit - running.length` waiters start, in order -/
theorem promote_eq :
    promote limit running waiting =
      ({ running := running ++ waiting.take (limit - running.length),
         waiting := waiting.drop (limit - running.length) },
       waiting.take (limit - running.length)) := by
  induction waiting generalizing running with
  | nil => simp [promote]
  | cons w ws ih =>
    rw [promote]
    cases hk : limit - running.length with
    | zero => rw [if_neg (Nat.not_lt.mpr (Nat.sub_eq_zero_iff_le.mp hk)), List.take_zero, List.append_nil]; rfl
    | succ k =>
      have hk' : limit - (running ++ [w]).length = k := by
        rw [List.length_append, List.length_singleton, Nat.sub_add_eq, hk]; rfl
      rw [if_pos (Nat.lt_of_sub_eq_succ hk), ih, hk', List.append_assoc]
      rfl

theorem promote_bound (h : running.length ≤ limit) : (promote limit running waiting).1.running.length ≤ limit := by
  rw [promote_eq, List.length_append]
  exact Nat.add_le_of_le_sub' h (List.length_take_le ..)

/-- work conserving: after promotion a waiter remains only if every slot is taken -/
theorem promote_full :
    (promote limit running waiting).1.waiting ≠ [] → limit ≤ (promote limit running waiting).1.running.length := by
  rw [promote_eq]
  simp only [ne_eq, List.drop_eq_nil_iff, List.length_append, List.length_take]
  omega

/-- promotion only moves requests from the head of the queue to the end of the running list -/
theorem promote_all : (promote limit running waiting).1.all = running ++ waiting := by
  rw [promote_eq]
  exact (List.append_assoc ..).trans (congrArg _ (List.take_append_drop ..))

/-! ### one peer's slots
`Inflight.step` changes the slots of at most one peer, in one of two ways. -/
namespace PeerSlots

/-- the slots of a peer after its request `r` arrives -/
def arrive (x : PeerSlots) (limit : Nat) : Bool → Nat → PeerSlots
  | true, r => (promote limit x.running (x.waiting ++ [r])).1
  | false, r => if x.running.length < limit then { x with running := x.running ++ [r] } else x

/-- the slots of a peer after its request `r` ends (completes, fails or is dropped) -/
def leave (x : PeerSlots) (limit : Nat) (r : Nat) : PeerSlots :=
  (promote limit (x.running.filter (· ≠ r)) (x.waiting.filter (· ≠ r))).1

/-- an arrival adds at most the new request -/
theorem arrive_all_subset {x : PeerSlots} {acc : List Nat} (h : x.all ⊆ acc) :
    (x.arrive limit block r).all ⊆ acc ++ [r] := by
  have h' : x.all ⊆ acc ++ [r] := List.subset_append_of_subset_left _ h
  obtain ⟨hrun, hwait⟩ := List.append_subset.mp h'
  have hr : [r] ⊆ acc ++ [r] := List.subset_append_right ..
  cases block with
  | true => rw [arrive, promote_all]; exact List.append_subset.mpr ⟨hrun, List.append_subset.mpr ⟨hwait, hr⟩⟩
  | false =>
    rw [arrive]
    split
    · exact List.append_subset.mpr ⟨List.append_subset.mpr ⟨hrun, hr⟩, hwait⟩
    · exact h'

/-- an ending request leaves the slots, everything else stays -/
theorem leave_all : (x.leave limit r).all = x.all.filter (· ≠ r) := by
  rw [leave, promote_all, all, List.filter_append]

end PeerSlots

/-- `Inflight.Inv` read at one peer -/
structure SlotsOk (limit : Nat) (block : Bool) (x : PeerSlots) : Prop where
  bound : x.running.length ≤ limit
  full : x.waiting ≠ [] → limit ≤ x.running.length
  noWait : block = false → x.waiting = []

variable {limit block x}

namespace SlotsOk

theorem of_promote {running waiting : List Nat} (hr : running.length ≤ limit) (hw : block = false → waiting = []) :
    SlotsOk limit block (promote limit running waiting).1 :=
  ⟨promote_bound _ _ _ hr, promote_full _ _ _, fun hb => by rw [hw hb]; rfl⟩

theorem arrive (h : SlotsOk limit block x) : SlotsOk limit block (x.arrive limit block r) := by
  cases block with
  | true => exact of_promote h.bound (fun hf => by cases hf)
  | false =>
    have hw := h.noWait rfl
    rw [PeerSlots.arrive]
    split
    · next hl => exact ⟨by rw [List.length_append]; exact hl, fun hne => absurd hw hne, fun _ => hw⟩
    · exact h

theorem leave (h : SlotsOk limit block x) : SlotsOk limit block (x.leave limit r) :=
  of_promote (Nat.le_trans (List.length_filter_le ..) h.bound) (fun hb => by rw [h.noWait hb]; rfl)

end SlotsOk

/-! ### `Inflight.step`: the state after a step -/

@[simp] theorem setPeer_peers (q : Nat) : (setPeer s p x).peers q = if q = p then x else s.peers q := rfl

theorem setPeer_self : setPeer s p (s.peers p) = s := by
  have : (fun q => if q = p then s.peers p else s.peers q) = s.peers := by
    funext q
    split
    · next hq => rw [hq]
    · rfl
  rw [setPeer, this]

namespace Inflight

theorem step_arrive_fst :
    (s.step (.arrive r (some p))).1 = setPeer s p ((s.peers p).arrive s.limit s.block r) := by
  rw [step]
  cases s.block with
  | true => rfl
  | false =>
    rw [if_neg Bool.false_ne_true, PeerSlots.arrive]
    split
    · rfl
    · exact (setPeer_self s p).symm

theorem step_finish_fst : (s.step (.finish r p)).1 = setPeer s p ((s.peers p).leave s.limit r) := rfl

/-- completion and cancellation are the same transition -/
theorem step_cancel : s.step (.cancel r p) = s.step (.finish r p) := rfl

/-- ReturnError mode: an arrival takes a free slot or is refused on the spot -/
theorem step_arrive_returnError (hb : s.block = false) :
    s.step (.arrive r (some p)) =
      if (s.peers p).running.length < s.limit then
        (setPeer s p { (s.peers p) with running := (s.peers p).running ++ [r] }, .started r, [r])
      else (s, .refused r, []) := by
  simp only [step, hb, Bool.false_eq_true, if_false]

end Inflight

/-! ### `pendingOf` -/

theorem pendingOf_cons (op : IOp) (ops : List IOp) (acc : List Nat) :
    pendingOf p block (op :: ops) acc = pendingOf p block ops (pendingOf p block [op] acc) := by
  cases op with
  | arrive r q => cases q <;> rfl
  | finish r q | cancel r q => rfl

theorem pendingOf_append (a b : List IOp) (acc : List Nat) :
    pendingOf p block (a ++ b) acc = pendingOf p block b (pendingOf p block a acc) := by
  induction a generalizing acc with
  | nil => rfl
  | cons op t ih => rw [List.cons_append, pendingOf_cons, ih, ← pendingOf_cons]

end Inflight

/-! ## GCRA rate limit
A call at `now` is decided by comparing `now` with `earliest`; everything about `check` and `runCount`
follows from the two cases. -/
section Gcra
variable {g : Gcra} {st : Option Nat} {now : Nat}

namespace Gcra

theorem check_of_lt (h : now < g.earliest st now) : g.check st now = (false, st) := if_pos h

theorem check_of_le (h : g.earliest st now ≤ now) :
    g.check st now = (true, some (max (st.getD (now + g.t)) now + g.t)) := if_neg (Nat.not_lt.mpr h)

theorem check_refused_iff : (g.check st now).1 = false ↔ now < g.earliest st now := by
  rcases Nat.lt_or_ge now (g.earliest st now) with h | h
  · simp [check_of_lt h, h]
  · simp [check_of_le h, Nat.not_lt.mpr h]

theorem runCount_cons_of_lt (h : now < g.earliest st now) (xs : List Nat) :
    g.runCount st (now :: xs) = g.runCount st xs := by
  rw [runCount, check_of_lt h]
  exact Nat.zero_add _

theorem runCount_cons_of_le (h : g.earliest st now ≤ now) (xs : List Nat) :
    g.runCount st (now :: xs) = 1 + g.runCount (some (max (st.getD (now + g.t)) now + g.t)) xs := by
  rw [runCount, check_of_le h]
  rfl

/-- an admission at `now ≤ E` cannot push the state past `E + tau + t` -/
theorem admitted_state_le {E : Nat} (h : g.earliest st now ≤ now) (hE : now ≤ E) :
    max (st.getD (now + g.t)) now + g.t ≤ E + g.tau + g.t :=
  Nat.add_le_add_right (Nat.max_le.mpr
    ⟨Nat.le_trans (Nat.sub_le_iff_le_add.mp h) (Nat.add_le_add_right hE _), Nat.le_trans hE (Nat.le_add_right ..)⟩) _

/-- a key never seen before is admitted (given a burst of at least one) and starts two periods ahead -/
theorem check_none (hb : 1 ≤ g.burst) (now : Nat) : g.check none now = (true, some (now + g.t + g.t)) := by
  have h : g.earliest none now ≤ now :=
    Nat.sub_le_of_le_add (Nat.add_le_add_left (Nat.le_mul_of_pos_right _ hb) _)
  rw [check_of_le h, Option.getD_none, Nat.max_eq_left (Nat.le_add_right ..)]

end Gcra

theorem Nat.max_le_max' {a b c d : Nat} (h₁ : a ≤ c) (h₂ : b ≤ d) : max a b ≤ max c d :=
  Nat.max_le.mpr ⟨Nat.le_trans h₁ (Nat.le_max_left ..), Nat.le_trans h₂ (Nat.le_max_right ..)⟩

end Gcra
end Anemo
