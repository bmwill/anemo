/- `rpcRoundTrip` leg by leg, and two facts about a chain of checks `if .. then error else ..`. -/
import AnemoModel.Rpc
import AnemoModel.Lemmas.Wire

/-- peels one check off a chain `if ¬c₁ then a₁ else if ¬c₂ then a₂ else ..`: under `refine` it leaves the rest of the
chain to be shown with `c` in hand -/
theorem eq_ite_not {α : Sort _} {c : Prop} [Decidable c] {x a b : α} (hn : ¬c → x = a) (hp : c → x = b) :
    x = if ¬c then a else b := by
  by_cases h : c
  · rw [if_neg (not_not_intro h)]
    exact hp h
  · rw [if_pos h]
    exact hn h

/-- an `if` whose first branch is not `y` equals `y` only through its second; as a `simp` lemma it turns
`chain of checks = y` into the conjunction of the checks passed -/
theorem ite_eq_iff_of_ne {α : Sort _} {c : Prop} [Decidable c] {a b y : α} (h : a ≠ y) :
    (if c then a else b) = y ↔ ¬c ∧ b = y := by
  by_cases hc : c
  · rw [if_pos hc]
    exact ⟨fun e => absurd e h, fun e => absurd hc e.1⟩
  · rw [if_neg hc]
    exact ⟨fun e => ⟨hc, e⟩, fun e => e.2⟩

namespace Anemo
open Gen

/-! `rpcRoundTrip` step by step, over variables only (as for `decodeMsg`: the kernel must not unfold the codecs) -/
section steps
variable {cm sm : Nat} {req req' : Req} {handler : Req → Resp} {e : WireErr} {bytes rest rbytes rest' : Bytes}
  {resp : Resp}

theorem rpc_err1 (h1 : encodeRequest cm req = .error e) :
    rpcRoundTrip cm sm req handler = .error (.callerSend e) := by
  simp only [rpcRoundTrip, h1]

theorem rpc_err2 (h1 : encodeRequest cm req = .ok bytes) (h2 : decodeRequest sm bytes = .error e) :
    rpcRoundTrip cm sm req handler = .error (.calleeRecv e) := by
  simp only [rpcRoundTrip, h1, h2]

theorem rpc_err3 (h1 : encodeRequest cm req = .ok bytes) (h2 : decodeRequest sm bytes = .ok (req', rest))
    (h3 : encodeResponse sm (handler req') = .error e) :
    rpcRoundTrip cm sm req handler = .error (.calleeSend e) := by
  simp only [rpcRoundTrip, h1, h2, h3]

theorem rpc_err4 (h1 : encodeRequest cm req = .ok bytes) (h2 : decodeRequest sm bytes = .ok (req', rest))
    (h3 : encodeResponse sm (handler req') = .ok rbytes) (h4 : decodeResponse cm rbytes = .error e) :
    rpcRoundTrip cm sm req handler = .error (.callerRecv e) := by
  simp only [rpcRoundTrip, h1, h2, h3, h4]

theorem rpc_ok (h1 : encodeRequest cm req = .ok bytes) (h2 : decodeRequest sm bytes = .ok (req', rest))
    (h3 : encodeResponse sm (handler req') = .ok rbytes) (h4 : decodeResponse cm rbytes = .ok (resp, rest')) :
    rpcRoundTrip cm sm req handler = .ok resp := by
  simp only [rpcRoundTrip, h1, h2, h3, h4]
end steps

end Anemo
