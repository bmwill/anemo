/- Lemmas about the serving machine of one stream (`Srv`) and about a connection as a family of such machines. -/
import AnemoModel.Stream
import AnemoModel.Lemmas.Wire
namespace Anemo
open Gen

/-- every strict prefix of an encoded request makes the decoder ask for more bytes -/
theorem decodeRequest_prefix (max : Nat) (r : Req) (bytes : Bytes) (k : Nat) (hmax : max ≤ lenFieldMax)
    (hr : StrWF r.route) (hh : HeadersUtf8 r.headers)
    (henc : encodeRequest max r = .ok bytes) (hk : k < bytes.length) :
    ∃ e, decodeRequest max (bytes.take k) = .error e ∧ e.needsMore = true := by
  have hw := (encodeRequest_ok_iff max r bytes).mp henc
  obtain ⟨e, he, h⟩ := decodeMsg_prefix parseReqHeader max r.version _ r.body bytes k hmax hw hk
  refine ⟨e, by unfold decodeRequest; rw [he], ?_⟩
  rcases h with rfl | rfl | rfl | h
  · rfl
  · rfl
  · rfl
  · rw [parseReqHeader_enc r hr hh (writeMsg_ok_lt hmax hw)] at h; cases h

/-! ### one stream -/

/-- how many more times the handler can be invoked: once while the request is being read, never after -/
def SrvPhase.invokesLeft : SrvPhase → Nat
  | .reading _ _ => 1
  | _ => 0

theorem srv_step_invokes (max : Nat) (sched : Bool) (p : SrvPhase) (e : SrvEvent) :
    ((Srv.step max sched p e).2.filter isInvoke).length + (Srv.step max sched p e).1.invokesLeft ≤ p.invokesLeft := by
  fun_cases Srv.step max sched p e
  -- the racy clause: what is emitted depends on the scheduler
  case case1 => cases sched <;> simp [List.filter, isInvoke, SrvPhase.invokesLeft]
  all_goals simp [List.filter, isInvoke, SrvPhase.invokesLeft]

theorem srv_run_invokes (max : Nat) (sched : Bool) (p : SrvPhase) (es : List SrvEvent) :
    ((Srv.run max sched p es).2.filter isInvoke).length + (Srv.run max sched p es).1.invokesLeft ≤ p.invokesLeft := by
  induction es generalizing p with
  | nil => simp [Srv.run]
  | cons e t ih =>
    have h1 := srv_step_invokes max sched p e
    have h2 := ih (Srv.step max sched p e).1
    simp only [Srv.run, List.filter_append, List.length_append]
    omega

theorem srv_over_run (max : Nat) (sched : Bool) (es : List SrvEvent) : Srv.run max sched .over es = (.over, []) := by
  induction es with
  | nil => rfl
  | cons e t ih => cases e <;> simp [Srv.run, Srv.step, ih]

theorem srv_run_append (max : Nat) (sched : Bool) (p : SrvPhase) (a b : List SrvEvent) :
    Srv.run max sched p (a ++ b) =
      ((Srv.run max sched (Srv.run max sched p a).1 b).1,
       (Srv.run max sched p a).2 ++ (Srv.run max sched (Srv.run max sched p a).1 b).2) := by
  induction a generalizing p with
  | nil => simp [Srv.run]
  | cons e t ih => simp [Srv.run, ih, List.append_assoc]

theorem srv_handling_data (max : Nat) (sched : Bool) (chunks : List Bytes) :
    Srv.run max sched .handling (chunks.map .data) = (.handling, []) := by
  induction chunks with
  | nil => rfl
  | cons c t ih => simp [Srv.run, Srv.step, ih]

/-! ### a connection: the machines of its streams do not interact -/

theorem Conn.step_other (max : Nat) (c : ConnState) (sid j : Nat) (e : SrvEvent) (hj : j ≠ sid) :
    (Conn.step max c sid e).1.streams j = c.streams j := by
  simp [Conn.step, hj]

/-- events that are all on stream `s` leave every other stream where it was -/
theorem Conn.run_other (max : Nat) (c : ConnState) (s : Nat) (evs : List SrvEvent) (j : Nat) (hj : j ≠ s) :
    (Conn.run max c (evs.map fun e => (s, e))).streams j = c.streams j := by
  induction evs generalizing c with
  | nil => rfl
  | cons e t ih => rw [List.map_cons, Conn.run, ih, Conn.step_other max c s j e hj]

end Anemo
