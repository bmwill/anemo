/- `Views.Link.step` event by event and end by end: the equations the C09 invariants are proved from. -/
import AnemoModel.Views
namespace Anemo.Views

@[simp] theorem Who.other_other (w : Who) : w.other.other = w := by cases w <;> rfl
@[simp] theorem Who.other_ne (w : Who) : w.other ≠ w := by cases w <;> decide
@[simp] theorem Who.ne_other (w : Who) : w ≠ w.other := by cases w <;> decide
theorem Who.eq_other_of_ne {y w : Who} (h : y ≠ w) : y = w.other := by
  cases w <;> cases y <;> first | rfl | exact absurd rfl h

@[simp] theorem Link.side_set (l : Link) (w y : Who) (s : Side) :
    (l.set w s).side y = if y = w then s else l.side y := by cases w <;> cases y <;> rfl

@[simp] theorem Link.now_set (l : Link) (w : Who) (s : Side) : (l.set w s).now = l.now := by cases w <;> rfl

theorem Link.run_cons (T : Nat) (l : Link) (e : Ev) (es : List Ev) : l.run T (e :: es) = (l.step T e).run T es := rfl

theorem Link.run_append (T : Nat) (l : Link) (es es' : List Ev) : l.run T (es ++ es') = (l.run T es).run T es' :=
  List.foldl_append ..

/-- a property that every step on an admitted event keeps is kept by every run of admitted events -/
theorem Link.run_invariant {T : Nat} {ok : Ev → Prop} {P : Link → Prop}
    (hstep : ∀ l e, ok e → P l → P (l.step T e)) (evs : List Ev) (hok : ∀ e ∈ evs, ok e) (l : Link) (h : P l) :
    P (l.run T evs) := by
  induction evs generalizing l with
  | nil => exact h
  | cons e es ih =>
    exact ih (fun e' he' => hok e' (List.mem_cons_of_mem _ he')) _ (hstep l e (hok e List.mem_cons_self) h)

/-- an idle timer that has run out kills its end; on a dead end there is nothing left to kill -/
theorem Side.expire_eq (now : Nat) (s : Side) : s.expire now = if s.deadline ≤ now then s.kill else s := by
  obtain ⟨alive, _, _⟩ := s
  cases alive <;> simp [Side.expire, Side.kill]

/-! ### `Link.step`, event by event -/

theorem step_tick_side (T : Nat) (l : Link) (y : Who) :
    (l.step T .tick).side y = (l.side y).expire (l.now + 1) := by cases y <;> rfl

theorem step_close_side (T : Nat) (l : Link) (w : Who) (d : Bool) (y : Who) :
    (l.step T (.close w d)).side y = if y = w ∨ d = true then (l.side y).kill else l.side y := by
  cases w <;> cases y <;> cases d <;> rfl

theorem step_close_now (T : Nat) (l : Link) (w : Who) (d : Bool) : (l.step T (.close w d)).now = l.now := by
  cases d <;> simp [Link.step]

/-- an ack-eliciting packet leaves: it restarts the sender's idle timer if it is the first since the last receipt -/
def Side.arm (dl : Nat) (s : Side) : Side :=
  if s.sentSinceRecv then s else { s with deadline := dl, sentSinceRecv := true }

theorem step_send_dead (T : Nat) (l : Link) (w : Who) (d k : Bool) (h : (l.side w).alive = false) :
    l.step T (.send w d k) = l := by simp [Link.step, h]

theorem step_send_lost (T : Nat) (l : Link) (w : Who) (d k : Bool) (h : (l.side w).alive = true)
    (ho : (d && (l.side w.other).alive) = false) :
    l.step T (.send w d k) = l.set w ((l.side w).arm (l.now + T)) := by
  simp [Link.step, h, ho, Side.arm]

theorem step_send_delivered (T : Nat) (l : Link) (w : Who) (k : Bool) (h : (l.side w).alive = true)
    (ho : (l.side w.other).alive = true) :
    l.step T (.send w true k) =
      (l.set w (if k then { l.side w with deadline := l.now + T, sentSinceRecv := false }
                else (l.side w).arm (l.now + T))).set
        w.other { l.side w.other with deadline := l.now + T, sentSinceRecv := false } := by
  cases hs : (l.side w).sentSinceRecv <;> cases k <;> simp [Link.step, h, ho, Side.arm, hs]

/-- a delivered and acknowledged packet between live ends restarts both timers, whoever sent it -/
theorem step_send_acked (T : Nat) (l : Link) (w : Who) (ha : l.a.alive = true) (hb : l.b.alive = true) :
    l.step T (.send w true true) =
      { l with a := { l.a with deadline := l.now + T, sentSinceRecv := false },
               b := { l.b with deadline := l.now + T, sentSinceRecv := false } } := by
  have h : ∀ y, (l.side y).alive = true := fun y => by cases y <;> assumption
  rw [step_send_delivered T l w true (h _) (h _)]
  cases w <;> rfl

/-! ### one end under one event -/

/-- What one event does to the end `y`: it is or stays dead; nothing, and if time moved its timer has
not fired (`kept`); it arms its idle timer by sending its first ack-eliciting packet since the last
receipt (`armed`); or a packet or acknowledgement from the other, live, end restarts its timer
(`refreshed`). -/
inductive SideStep (T : Nat) (l : Link) (ev : Ev) (y : Who) : Prop
  | dead (h : ((l.step T ev).side y).alive = false)
  | kept (hs : (l.step T ev).side y = l.side y)
      (hn : (l.step T ev).now = l.now ∨ ((l.step T ev).now = l.now + 1 ∧ l.now + 1 < (l.side y).deadline))
  | armed (ha : (l.side y).alive = true) (hn : (l.step T ev).now = l.now)
      (hf : (l.side y).sentSinceRecv = false) (hev : ev.isSendBy y = true)
      (hs : (l.step T ev).side y = { l.side y with deadline := l.now + T, sentSinceRecv := true })
  | refreshed (ha : (l.side y).alive = true) (ho : (l.side y.other).alive = true) (hn : (l.step T ev).now = l.now)
      (hs : (l.step T ev).side y = { l.side y with deadline := l.now + T, sentSinceRecv := false })

theorem side_step (T : Nat) (l : Link) (ev : Ev) (y : Who) : SideStep T l ev y := by
  cases ev with
  | tick =>
    by_cases hd : (l.side y).deadline ≤ l.now + 1
    · exact .dead (by rw [step_tick_side, Side.expire_eq, if_pos hd]; rfl)
    · exact .kept (by rw [step_tick_side, Side.expire_eq, if_neg hd]) (.inr ⟨rfl, by omega⟩)
  | close w d =>
    by_cases h : y = w ∨ d = true
    · exact .dead (by rw [step_close_side, if_pos h]; rfl)
    · exact .kept (by rw [step_close_side, if_neg h]) (.inl (step_close_now T l w d))
  | send w d k =>
    -- the sender's own end after a packet that is not acknowledged
    have arm : ∀ l', l'.now = l.now → l'.side w = (l.side w).arm (l.now + T) → (l.side w).alive = true →
        l.step T (.send w d k) = l' → SideStep T l (.send w d k) w := by
      intro l' hn hs ha he
      cases hf : (l.side w).sentSinceRecv with
      | true => exact .kept (by rw [he, hs, Side.arm, hf]; rfl) (.inl (by rw [he, hn]))
      | false => exact .armed ha (by rw [he, hn]) hf (by simp [Ev.isSendBy]) (by rw [he, hs, Side.arm, hf]; rfl)
    cases hw : (l.side w).alive with
    | false => exact .kept (by rw [step_send_dead T l w d k hw]) (.inl (by rw [step_send_dead T l w d k hw]))
    | true =>
      cases ho : (d && (l.side w.other).alive) with
      | false =>
        have he := step_send_lost T l w d k hw ho
        by_cases hy : y = w
        · subst hy; exact arm _ (by simp) (by simp) hw he
        · exact .kept (by rw [he]; simp [hy]) (.inl (by rw [he]; simp))
      | true =>
        simp only [Bool.and_eq_true] at ho
        obtain ⟨rfl, ho⟩ := ho
        have he := step_send_delivered T l w k hw ho
        by_cases hy : y = w
        · subst hy
          cases k with
          | true => exact .refreshed hw ho (by rw [he]; simp) (by rw [he]; simp)
          | false => exact arm _ (by simp) (by simp) hw he
        · obtain rfl := Who.eq_other_of_ne hy
          exact .refreshed ho (by simpa using hw) (by rw [he]; simp) (by rw [he]; simp)


/-- no event revives an end -/
theorem alive_of_step {T : Nat} {l : Link} {ev : Ev} {y : Who} (h : ((l.step T ev).side y).alive = true) :
    (l.side y).alive = true := by
  cases side_step T l ev y with
  | dead hd => rw [hd] at h; cases h
  | kept hs => rwa [hs] at h
  | armed ha => exact ha
  | refreshed ha => exact ha

theorem dead_step {T : Nat} {l : Link} (ev : Ev) {y : Who} (h : (l.side y).alive = false) :
    ((l.step T ev).side y).alive = false := by
  cases ha : ((l.step T ev).side y).alive with
  | false => rfl
  | true => rw [alive_of_step ha] at h; cases h

theorem ok_step (T : Nat) (hT : 0 < T) (l : Link) (ev : Ev) (y : Who) (h : (l.side y).Ok T l.now) :
    ((l.step T ev).side y).Ok T (l.step T ev).now := by
  intro ha
  have h := h (alive_of_step ha)
  cases side_step T l ev y with
  | dead hd => rw [hd] at ha; cases ha
  | kept hs hn => rw [hs]; omega
  | armed _ hn _ _ hs => rw [hs, hn]; exact ⟨Nat.lt_add_of_pos_right hT, Nat.le_refl _⟩
  | refreshed _ _ hn hs => rw [hs, hn]; exact ⟨Nat.lt_add_of_pos_right hT, Nat.le_refl _⟩

theorem Link.Inv.side {T : Nat} {l : Link} (h : l.Inv T) (y : Who) : (l.side y).Ok T l.now := by
  cases y
  · exact h.1
  · exact h.2

theorem inv_step (T : Nat) (hT : 0 < T) (l : Link) (ev : Ev) (h : l.Inv T) : (l.step T ev).Inv T :=
  ⟨ok_step T hT l ev .a h.1, ok_step T hT l ev .b h.2⟩

end Anemo.Views
