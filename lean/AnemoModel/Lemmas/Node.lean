/- helper lemmas for the node model (active-peer set + handler tasks) -/
import AnemoModel.Node
import AnemoModel.Lemmas.Peers
namespace Anemo

structure Node.Inv (n : Node) : Prop where
  active : n.active.Inv
  entryHasHandler : ∀ e ∈ n.active.conns, e.2 ∈ n.handlers
  handlerAccounted : ∀ c ∈ n.handlers, c.id ∈ n.active.added ∧ (c.id ∈ n.active.closed ∨ (c.peer, c) ∈ n.active.conns)

/-- `remove` on the active set with the handlers left running: `Network::disconnect`, and the first half of a
replacing `add` and of a handler's exit. The handler of the removed entry now serves a closed connection. -/
theorem Node.Inv.remove {n : Node} (h : n.Inv) (p : PeerId) (r : Reason) :
    Node.Inv { n with active := n.active.remove p r } := by
  refine ⟨Active.remove_inv p r n.active h.active, ?_, ?_⟩
  · intro e he
    rw [remove_conns] at he
    exact h.entryHasHandler e ((mem_eraseConn _ _ _).mp he).1
  · intro c hc
    obtain ⟨ha, hcl | hin⟩ := h.handlerAccounted c hc
    · exact ⟨by rwa [remove_added], .inl (mem_closed_remove _ p r _ hcl)⟩
    · refine ⟨by rwa [remove_added], ?_⟩
      by_cases hp : c.peer = p
      · exact .inl (remove_closes _ p r c (hp ▸ lookupConn_of_mem_nodup _ _ _ h.active.nodup hin))
      · rw [remove_conns]
        exact .inr ((mem_eraseConn _ _ _).mpr ⟨hin, hp⟩)

/-- a handler whose connection has been closed serves no entry, so it may exit -/
theorem Node.Inv.exit {n : Node} (h : n.Inv) (id : Nat) (hid : id ∈ n.active.closed) :
    Node.Inv { n with handlers := n.handlers.filter (·.id ≠ id) } := by
  refine ⟨h.active, fun e he => List.mem_filter.mpr ⟨h.entryHasHandler e he, ?_⟩,
    fun c hc => h.handlerAccounted c (List.mem_filter.mp hc).1⟩
  exact decide_eq_true fun heq => h.active.notClosed e he (heq ▸ hid)

/-- a connection established to an unlisted peer is listed and gets its handler -/
theorem Node.Inv.establishedVacant {n : Node} (h : n.Inv) (own : PeerId) (c : Conn) (hf : c.id ∉ n.active.added)
    (hl : lookupConn n.active.conns c.peer = none) : (n.step own (.established c)).Inv := by
  have hadd := Active.add_vacant_inv own c n.active h.active hf hl
  simp only [Node.step, add_none own _ c hl] at hadd ⊢
  refine ⟨hadd, ?_, ?_⟩
  · exact List.forall_mem_concat.mpr ⟨fun e he => List.mem_append_left _ (h.entryHasHandler e he), List.mem_concat_self⟩
  · refine List.forall_mem_concat.mpr ⟨fun x hx => ?_, List.mem_concat_self, .inr List.mem_concat_self⟩
    obtain ⟨ha, hx⟩ := h.handlerAccounted x hx
    exact ⟨List.mem_append_left _ ha, hx.imp_right (List.mem_append_left _)⟩

theorem Node.step_inv (own : PeerId) (n : Node) (op : NodeOp) (h : n.Inv) (hf : op.freshFor n) : (n.step own op).Inv := by
  cases op with
  | established c =>
    cases hl : lookupConn n.active.conns c.peer with
    | none => exact h.establishedVacant own c hf hl
    | some old =>
      cases ht : tieBreak own c.peer old.origin c.origin with
      | true =>
        -- as `add` is a `remove` and an `add` that finds the peer unlisted
        have : n.step own (.established c) =
            Node.step own { n with active := n.active.remove c.peer .requested } (.established c) := by
          simp only [Node.step, add_replace_eq own _ c old hl ht]
        rw [this]
        exact (h.remove c.peer .requested).establishedVacant own c (by rwa [remove_added]) (remove_lookup_self _ _ _)
      | false =>
        have hadd := Active.add_inv own c n.active h.active hf
        simp only [Node.step, add_drop own _ c old hl ht] at hadd ⊢
        refine ⟨hadd, h.entryHasHandler, fun x hx => ?_⟩
        obtain ⟨ha, hx⟩ := h.handlerAccounted x hx
        exact ⟨List.mem_append_left _ ha, hx.imp_left (List.mem_append_left _)⟩
  | handlerExit id r =>
    cases hfind : n.handlers.find? (·.id = id) with
    | none => simp only [Node.step, hfind]; exact h
    | some c =>
      simp only [Node.step, hfind]
      have hcid : c.id = id := by simpa using List.find?_some hfind
      rw [removeStable_eq]
      split
      · next hrm =>
        refine (h.remove c.peer r).exit id ?_
        obtain ⟨c', hl, rfl⟩ := Option.map_eq_some_iff.mp hrm
        exact remove_closes _ _ r c' hl
      · next hkeep =>
        refine h.exit id ?_
        -- were the connection of the exiting handler still listed, it would have been removed
        rcases (h.handlerAccounted c (List.mem_of_find?_eq_some hfind)).2 with hcl | hin
        · exact hcid ▸ hcl
        · have hl := lookupConn_of_mem_nodup _ _ _ h.active.nodup hin
          exact absurd (by rw [hl, Option.map_some, hcid]) hkeep
  | disconnect p => exact h.remove p .requested

def Node.runOk (own : PeerId) : Node → List NodeOp → Prop
  | _, [] => True
  | n, op :: rest => op.freshFor n ∧ Node.runOk own (n.step own op) rest

theorem Node.run_inv (own : PeerId) (ops : List NodeOp) (n : Node) (h : n.Inv) (hok : Node.runOk own n ops) :
    (n.run own ops).Inv := by
  induction ops generalizing n with
  | nil => exact h
  | cons op rest ih => exact ih _ (Node.step_inv own n op h hok.1) hok.2

theorem Node.inv_init : ({} : Node).Inv :=
  ⟨Active.inv_init, by simp, by simp⟩

end Anemo
